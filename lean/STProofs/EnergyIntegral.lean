import STProofs.Alg
import Mathlib.Analysis.SpecialFunctions.Integrals.Basic
import Mathlib.Tactic.Ring
/-!
# The closed-form energies are genuine integrals (over ℝ)

`energySeg T c = ∫₀ᵀ (p⁽ˢ⁾(t))² dt` for the cubic (s = 2), quintic (s = 3) and septic (s = 4) pieces, for
every coefficient set and every `T`; hence the energy one coordinate reports is the integral of the squared s-th
derivative of its pieces (`…_energy_total`), and it is non-negative for `T ≥ 0`.
-/
open ST intervalIntegral

theorem integral_poly (b : ℕ → ℝ) (n : ℕ) (T : ℝ) :
    ∫ t in (0:ℝ)..T, (∑ k ∈ Finset.range n, b k * t ^ k)
      = ∑ k ∈ Finset.range n, b k * T ^ (k + 1) / (k + 1) := by
  rw [integral_finsetSum]
  · refine Finset.sum_congr rfl fun k _ => ?_
    rw [integral_const_mul, integral_pow, zero_pow k.succ_ne_zero, sub_zero, mul_div_assoc]
  · exact fun i _ => (continuous_const.mul (continuous_pow i)).intervalIntegrable _ _

/-- second derivative of a cubic piece -/
def Cubic.acc (c : Cubic.C4 ℝ) (t : ℝ) : ℝ := 2 * c.c2 + 6 * c.c3 * t
/-- third derivative of a quintic piece -/
def Quintic.jerk (c : Quintic.C6 ℝ) (t : ℝ) : ℝ := 6 * c.c3 + 24 * c.c4 * t + 60 * c.c5 * t ^ 2
/-- fourth derivative of a septic piece -/
def Septic.snap (c : Septic.C8 ℝ) (t : ℝ) : ℝ :=
  24 * c.c4 + 120 * c.c5 * t + 360 * c.c6 * t ^ 2 + 840 * c.c7 * t ^ 3

theorem cubic_energy_integral (c : Cubic.C4 ℝ) (T : ℝ) :
    Cubic.energySeg T c = ∫ t in (0:ℝ)..T, (Cubic.acc c t) ^ 2 := by
  have h : ∀ t : ℝ, (Cubic.acc c t) ^ 2
      = ∑ k ∈ Finset.range 3, ([4 * c.c2 ^ 2, 24 * c.c2 * c.c3, 36 * c.c3 ^ 2] : List ℝ).getD k 0 * t ^ k := by
    intro t
    simp only [Finset.sum_range_succ, Finset.sum_range_zero, List.getD_cons_succ, List.getD_cons_zero, Cubic.acc]
    ring
  simp only [h, integral_poly]
  simp only [Finset.sum_range_succ, Finset.sum_range_zero, List.getD_cons_succ, List.getD_cons_zero,
    Cubic.energySeg, lit_eq]
  ring

theorem quintic_energy_integral (c : Quintic.C6 ℝ) (T : ℝ) :
    Quintic.energySeg T c = ∫ t in (0:ℝ)..T, (Quintic.jerk c t) ^ 2 := by
  have h : ∀ t : ℝ, (Quintic.jerk c t) ^ 2
      = ∑ k ∈ Finset.range 5, ([36 * c.c3 ^ 2, 288 * c.c3 * c.c4, 576 * c.c4 ^ 2 + 720 * c.c3 * c.c5, 2880 * c.c4 * c.c5,
          3600 * c.c5 ^ 2] : List ℝ).getD k 0 * t ^ k := by
    intro t
    simp only [Finset.sum_range_succ, Finset.sum_range_zero, List.getD_cons_succ, List.getD_cons_zero, Quintic.jerk]
    ring
  simp only [h, integral_poly]
  simp only [Finset.sum_range_succ, Finset.sum_range_zero, List.getD_cons_succ, List.getD_cons_zero,
    Quintic.energySeg, lit_eq]
  ring

theorem septic_energy_integral (c : Septic.C8 ℝ) (T : ℝ) :
    Septic.energySeg T c = ∫ t in (0:ℝ)..T, (Septic.snap c t) ^ 2 := by
  have h : ∀ t : ℝ, (Septic.snap c t) ^ 2
      = ∑ k ∈ Finset.range 7, ([576 * c.c4 ^ 2, 5760 * c.c4 * c.c5, 14400 * c.c5 ^ 2 + 17280 * c.c4 * c.c6,
          86400 * c.c5 * c.c6 + 40320 * c.c4 * c.c7, 129600 * c.c6 ^ 2 + 201600 * c.c5 * c.c7, 604800 * c.c6 * c.c7,
          705600 * c.c7 ^ 2] : List ℝ).getD k 0 * t ^ k := by
    intro t
    simp only [Finset.sum_range_succ, Finset.sum_range_zero, List.getD_cons_succ, List.getD_cons_zero, Septic.snap]
    ring
  simp only [h, integral_poly]
  simp only [Finset.sum_range_succ, Finset.sum_range_zero, List.getD_cons_succ, List.getD_cons_zero,
    Septic.energySeg, lit_eq]
  ring

/-- the integrand is a square, so every segment energy is non-negative for `T ≥ 0` -/
theorem cubic_energy_nonneg (c : Cubic.C4 ℝ) (T : ℝ) (hT : 0 ≤ T) : 0 ≤ Cubic.energySeg T c := by
  rw [cubic_energy_integral]; exact intervalIntegral.integral_nonneg hT (fun t _ => sq_nonneg _)
theorem quintic_energy_nonneg (c : Quintic.C6 ℝ) (T : ℝ) (hT : 0 ≤ T) : 0 ≤ Quintic.energySeg T c := by
  rw [quintic_energy_integral]; exact intervalIntegral.integral_nonneg hT (fun t _ => sq_nonneg _)
theorem septic_energy_nonneg (c : Septic.C8 ℝ) (T : ℝ) (hT : 0 ≤ T) : 0 ≤ Septic.energySeg T c := by
  rw [septic_energy_integral]; exact intervalIntegral.integral_nonneg hT (fun t _ => sq_nonneg _)

/-- total energy of one coordinate = sum over segments of the integrals -/
noncomputable def Cubic.energyInt : List ℝ → List (Cubic.C4 ℝ) → ℝ
  | T :: Ts, c :: cs => (∫ t in (0:ℝ)..T, (Cubic.acc c t) ^ 2) + Cubic.energyInt Ts cs
  | _, _ => 0
theorem Cubic.energyInt_cons (T : ℝ) (Ts : List ℝ) (c : Cubic.C4 ℝ) (cs : List (Cubic.C4 ℝ)) :
    Cubic.energyInt (T :: Ts) (c :: cs) = (∫ t in (0:ℝ)..T, (Cubic.acc c t) ^ 2) + Cubic.energyInt Ts cs := rfl
noncomputable def Quintic.energyInt : List ℝ → List (Quintic.C6 ℝ) → ℝ
  | T :: Ts, c :: cs => (∫ t in (0:ℝ)..T, (Quintic.jerk c t) ^ 2) + Quintic.energyInt Ts cs
  | _, _ => 0
noncomputable def Septic.energyInt : List ℝ → List (Septic.C8 ℝ) → ℝ
  | T :: Ts, c :: cs => (∫ t in (0:ℝ)..T, (Septic.snap c t) ^ 2) + Septic.energyInt Ts cs
  | _, _ => 0

theorem cubic_energy_total (Ts : List ℝ) (cs : List (Cubic.C4 ℝ)) : Cubic.energy Ts cs = Cubic.energyInt Ts cs := by
  induction Ts generalizing cs with
  | nil => cases cs <;> simp [Cubic.energy, Cubic.energyInt]
  | cons T Ts ih =>
    cases cs with
    | nil => simp [Cubic.energy, Cubic.energyInt]
    | cons c cs => simp only [Cubic.energy, Cubic.energyInt, ih, cubic_energy_integral]
theorem quintic_energy_total (Ts : List ℝ) (cs : List (Quintic.C6 ℝ)) : Quintic.energy Ts cs = Quintic.energyInt Ts cs := by
  induction Ts generalizing cs with
  | nil => cases cs <;> simp [Quintic.energy, Quintic.energyInt]
  | cons T Ts ih =>
    cases cs with
    | nil => simp [Quintic.energy, Quintic.energyInt]
    | cons c cs => simp only [Quintic.energy, Quintic.energyInt, ih, quintic_energy_integral]
theorem septic_energy_total (Ts : List ℝ) (cs : List (Septic.C8 ℝ)) : Septic.energy Ts cs = Septic.energyInt Ts cs := by
  induction Ts generalizing cs with
  | nil => cases cs <;> simp [Septic.energy, Septic.energyInt]
  | cons T Ts ih =>
    cases cs with
    | nil => simp [Septic.energy, Septic.energyInt]
    | cons c cs => simp only [Septic.energy, Septic.energyInt, ih, septic_energy_integral]
