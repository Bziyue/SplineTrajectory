import STProofs.CubicKKT
import STProofs.EnergyGrad
/-!
# C06 (cubic): the closed-form analytic energy gradients are what propagating the partials returns — every N

`getEnergyGradTimes`, `getEnergyGradInnerPoints`, `getEnergyGradBoundary` (closed forms in the coefficients) coincide
with `propagateGrad(getEnergyPartialGradByCoeffs, getEnergyPartialGradByTimes)`; with
`cubic_energy_total_derivative` they are therefore the total derivatives of the reported energy.

Key step: for the energy partials the adjoint system `A·λ = lraw` has the closed-form solution `λ = M/3` (the knot
second derivatives): `lraw = A·M/3` identically (`lraw_interior`), and the tridiagonal solve is unique (`thomasRhs_iff`).
-/
open ST ST.Cubic

namespace CubicEG

variable {K : Type} [Field K]

/-- the upstream gradient used by the energy: `partialC` of every closure piece -/
def pgs : List (Seg K) → List K → List (C4 K)
  | s :: rest, m0 :: m1 :: ms => partialC s.h (piece s m0 m1) :: pgs rest (m1 :: ms)
  | _, _ => []

theorem pgs_eq (segs : List (Seg K)) (ms : List K) :
    pgs segs ms = List.zipWith (fun T c => partialC T c) (segs.map (·.h)) (closure segs ms) := by
  fun_induction pgs segs ms with
  | case1 s rest m0 m1 ms ih => simp [closure_cons, ih]
  | case2 segs ms h => simp [closure]

/-- accumulating the point contributions `(12 c₃, −12 c₃)` of the pieces: an interior knot receives the jump of `12 c₃`
(`gradInner`), the last knot `−12 c₃` of the last piece; the carry is what the piece `cL` left for its right knot -/
theorem oaddAux_gradInner (cL : C4 K) (cs : List (C4 K)) (l : C4 K) (hl : (cL :: cs).getLast? = some l) :
    oaddAux (-(12 * cL.c3)) (cs.map (fun c => (12 * c.c3, -(12 * c.c3)))) = gradInner (cL :: cs) ++ [-(12 * l.c3)] := by
  induction cs generalizing cL with
  | nil => simp only [List.getLast?_singleton, Option.some.injEq] at hl; simp [oaddAux, gradInner, hl]
  | cons c cs ih =>
    simp only [List.map_cons, oaddAux, gradInner, List.cons_append]
    rw [ih c (by simpa [List.getLast?_cons_cons] using hl)]
    simp only [lit_eq]; push_cast; congr 1; ring

theorem closure_re (segs : List (Seg (Dual K))) (ms : List (Dual K)) :
    (closure segs ms).map C4.re = closure (segs.map Seg.re) (ms.map Dual.re) := by
  induction segs generalizing ms with
  | nil => cases ms <;> simp [closure]
  | cons s rest ih =>
    match ms with
    | [] | [_] => simp [closure]
    | m0 :: m1 :: ms' =>
      simp only [closure, List.map_cons, ih (m1 :: ms')]
      congr 1

theorem build_re (hs Ps : List (Dual K)) (v0 vn : Dual K) :
    (build hs Ps v0 vn).map C4.re = build (hs.map Dual.re) (Ps.map Dual.re) v0.re vn.re := by
  simp only [build, closure_re, knotM_re, mkSegs_re]

section charzero
variable [CharZero K]

theorem lam_piece (s : Seg K) (m0 m1 : K) :
    lamRawSeg s (partialC s.h (piece s m0 m1)) = (s.h * (2 * m0 + m1) / 3, s.h * (m0 + 2 * m1) / 3) := by
  simp only [lamRawSeg, partialC, piece, lit_eq]
  push_cast
  refine Prod.ext ?_ ?_ <;> (simp only []; field_simp; ring)

/-- `lraw = A·(M/3)` on the interior and last rows.  `carry` is what the segment `prev` adds to the current row; it is a
variable, fixed by `hcarry`, so that `oadd = oaddAux 0` is literally the instance `prev = seg0 v0` -/
theorem lraw_interior (vn : K) (prev : Seg K) (rest : List (Seg K)) (mprev : K) (ms : List K) (carry : K)
    (hlen : ms.length = rest.length + 1) (hcarry : carry = prev.h * (mprev + 2 * ms.headD 0) / 3) :
    SolvesR (mprev / 3) (interiorRows vn prev rest) (ms.map (· / 3)) (oaddAux carry (zipLam rest (pgs rest ms))) := by
  induction rest generalizing prev mprev ms carry with
  | nil =>
    match ms, hlen with
    | [m], _ =>
      simp only [interiorRows, zipLam, oaddAux, List.map_cons, List.map_nil, SolvesR, List.headD_nil, and_true, lit_eq]
      simp only [List.headD_cons] at hcarry
      rw [hcarry]; ring
  | cons s rest ih =>
    match ms, hlen with
    | m :: m' :: ms', hlen =>
      simp only [pgs, zipLam, lam_piece s m m', oaddAux, interiorRows, List.map_cons, SolvesR, List.headD_cons]
      refine ⟨?_, ?_⟩
      · simp only [List.headD_cons] at hcarry
        rw [hcarry]; simp only [lit_eq]; ring
      · have := ih s m (m' :: ms') (s.h * (m + 2 * m') / 3) (by simpa using hlen) (by simp)
        simpa using this

end charzero

variable [LinearOrder K] [IsStrictOrderedRing K]

/-- **the adjoint variable of the energy is `M/3`** -/
theorem lam_energy (v0 vn : K) (segs : List (Seg K)) (ms : List K) (hpos : AllPos segs) (hne : segs ≠ [])
    (hlen : ms.length = segs.length + 1) :
    thomas (withRhs (rows v0 vn segs) (oadd (zipLam segs (pgs segs ms)))) = ms.map (· / 3) := by
  have hS : SolvesR 0 (rows v0 vn segs) (ms.map (· / 3)) (oadd (zipLam segs (pgs segs ms))) := by
    rw [rows_eq_interior v0 vn segs hne]
    simpa [oadd] using lraw_interior vn (seg0 v0) segs 0 ms 0 hlen (by simp)
  exact ((thomasRhs_iff _ _ _ (pivok_cubic v0 vn segs hpos) (headOK_rows v0 vn segs)
    ((solvesR_iff _ _ _ _).mp hS).1).mp hS).symm

/-- with `λ = M/3` both loops are in closed form: point contributions `±12 c₃`, duration contributions
`gradTime − partialT` -/
theorem segContribs_energy (segs : List (Seg K)) (ms : List K) (hg : Good segs) :
    (segContribs segs (pgs segs ms) ms (ms.map (· / 3))).map (·.1)
        = (closure segs ms).map (fun c => (12 * c.c3, -(12 * c.c3))) ∧
      zipAdd (List.zipWith (fun T c => partialT T c) (segs.map (·.h)) (closure segs ms))
          ((segContribs segs (pgs segs ms) ms (ms.map (· / 3))).map (·.2))
        = (closure segs ms).map gradTime := by
  fun_induction pgs segs ms with
  | case1 s rest m0 m1 ms ih =>
    obtain ⟨hs, hpd⟩ := hg s (by simp)
    obtain ⟨ih1, ih2⟩ := ih fun x hx => hg x (by simp [hx])
    have hh : s.h ≠ 0 := hs.ne'
    simp only [List.map_cons, segContribs, closure_cons, List.zipWith_cons_cons, zipAdd] at ih1 ih2 ⊢
    rw [ih1, ih2]
    refine ⟨?_, ?_⟩ <;> congr 1 <;> simp only [partialC, piece, gradTime, partialT, lit_eq, hpd] <;> push_cast
    · refine Prod.ext ?_ ?_ <;> (simp only []; ring)
    · field_simp; ring
  | case2 segs ms h => simp [segContribs, closure, zipAdd]

/-- first and last piece of a closure, and the knot values they carry -/
theorem closure_ends (segs : List (Seg K)) (ms : List K) (hpos : AllPos segs) (hne : segs ≠ [])
    (hlen : ms.length = segs.length + 1) :
    ∃ f cs l s, closure segs ms = f :: cs ∧ (f :: cs).getLast? = some l ∧ segs.getLast? = some s ∧
      ms.head? = some (2 * f.c2) ∧ ms.getLast? = some (ev2 l s.h) := by
  induction segs generalizing ms with
  | nil => exact absurd rfl hne
  | cons s rest ih =>
    match ms, hlen with
    | m0 :: m1 :: ms', hlen =>
      have h0 : (m0 :: m1 :: ms').head? = some (2 * (piece s m0 m1).c2) := by simp only [piece, List.head?_cons]; congr 1; ring
      rw [closure_cons]
      by_cases hr : rest = []
      · subst hr
        match ms', hlen with
        | [], _ => exact ⟨_, [], _, s, by simp [closure], rfl, rfl, h0, by simp [ev2_piece_h _ _ _ hpos.1.ne']⟩
      · obtain ⟨f', cs', l, sl, e, h1, h2, -, h4⟩ := ih (m1 :: ms') hpos.2 hr (by simpa using hlen)
        exact ⟨_, _, l, sl, by rw [e], by simpa [List.getLast?_cons_cons] using h1, by simp [List.getLast?_cons, h2], h0,
          by simpa [List.getLast?_cons_cons] using h4⟩

/-- everything `propagateGrad` returns for the energy partials, in closed form; the knot values may be any -/
theorem analytic_core (v0 vn : K) (segs : List (Seg K)) (ms : List K) (hgood : Good segs) (hne : segs ≠ [])
    (hml : ms.length = segs.length + 1) :
    let cs := closure segs ms
    let Ts := segs.map (·.h)
    let out := propagate v0 vn segs ms (List.zipWith (fun T c => partialC T c) Ts cs)
    let gb := gradBoundary Ts cs
    out.points = gb.1.p :: (gradInner cs ++ [gb.2.p]) ∧
      zipAdd (List.zipWith (fun T c => partialT T c) Ts cs) out.times = cs.map gradTime ∧
      out.v0 = gb.1.v ∧ out.vn = gb.2.v := by
  have hap := hgood.allPos
  obtain ⟨f, tl, l, s, hcs, hl, hsl, e0, eN⟩ := closure_ends segs ms hap hne hml
  have hgb : gradBoundary (segs.map (·.h)) (f :: tl) = (⟨12 * f.c3, -(4 * f.c2)⟩, ⟨-(12 * l.c3), 2 * ev2 l s.h⟩) := by
    simp only [gradBoundary, hl, List.getLast?_map, hsl, List.head?_cons, Option.map_some, ev2, lit_eq]
    push_cast
    ring_nf
  -- the adjoint variable is `M/3`, which puts both loops in closed form
  obtain ⟨hpts, htimes⟩ := segContribs_energy segs ms hgood
  simp only [← pgs_eq, propagate, lam_energy v0 vn segs ms hap hne hml]
  refine ⟨?_, htimes, ?_, ?_⟩
  · rw [hpts, hcs, hgb]
    simp only [List.map_cons, oadd, oaddAux, oaddAux_gradInner f tl l hl, lit_eq]
    simp
  · rw [hcs, hgb]; simp [List.headD_eq_head?_getD, e0]; ring
  · rw [hcs, hgb]; simp [List.getLastD_eq_getLast?, eN]; ring

/-- **C06 (cubic), every N**: the closed-form analytic gradients are exactly what `propagateGrad` returns for the
energy partials -/
theorem cubic_analytic_grads (hs Ps : List K) (v0 vn : K) (hpos : PosList hs) (hne : hs ≠ [])
    (hP : Ps.length = hs.length + 1) :
    let cs := build hs Ps v0 vn
    let segs := mkSegs hs Ps
    let gC := List.zipWith (fun T c => partialC T c) hs cs
    let gT := List.zipWith (fun T c => partialT T c) hs cs
    let out := propagate v0 vn segs (knotM v0 vn segs) gC
    let gb := gradBoundary hs cs
    out.points = gb.1.p :: (gradInner cs ++ [gb.2.p]) ∧ zipAdd gT out.times = cs.map gradTime
      ∧ out.v0 = gb.1.v ∧ out.vn = gb.2.v := by
  have hsne := mkSegs_ne_nil hs Ps hne hP
  have := analytic_core v0 vn (mkSegs hs Ps) (knotM v0 vn (mkSegs hs Ps)) (good_mkSegs hs Ps hpos) hsne (by simp [hsne])
  simp only [mkSegs_map_h hs Ps hP] at this
  exact this

/-- **C06 (cubic), every N, complete**: the derivative of the reported energy along any tangent of durations, waypoints
and boundary velocities is the pairing of the tangent with the closed-form analytic gradients
(`getEnergyGradTimes`, `getEnergyGradInnerPoints`, `getEnergyGradBoundary`) -/
theorem cubic_energy_grad_exact (hs Ps : List (Dual K)) (v0 vn : Dual K)
    (hpos : ∀ h ∈ hs, 0 < h.re) (hne : hs ≠ []) (hP : Ps.length = hs.length + 1) :
    let csR := build (hs.map Dual.re) (Ps.map Dual.re) v0.re vn.re
    let gb := gradBoundary (hs.map Dual.re) csR
    (energy hs (build hs Ps v0 vn)).du
      = dot (gb.1.p :: (gradInner csR ++ [gb.2.p])) (Ps.map Dual.du) + dot (csR.map gradTime) (hs.map Dual.du)
        + gb.1.v * v0.du + gb.2.v * vn.du := by
  intro csR gb
  have htot := cubic_energy_total_derivative hs Ps v0 vn hpos hne hP
  simp only [] at htot
  rw [← List.zipWith_map (f := partialC) (g := Dual.re) (h := C4.re),
    ← List.zipWith_map (f := partialT) (g := Dual.re) (h := C4.re), build_re] at htot
  obtain ⟨a1, a2, a3, a4⟩ := cubic_analytic_grads (hs.map Dual.re) (Ps.map Dual.re) v0.re vn.re
    ((posList_iff _).mpr (by simpa using hpos)) (by simpa using hne) (by simpa using hP)
  rw [a1, a2, a3, a4] at htot
  exact htot

end CubicEG
