import STProofs.PPolyInit
import STProofs.FoldCollect
/-!
# The cache theorems of `PPolyND`, for an arbitrary scalar type — in particular for IEEE doubles (C11, C10, C03)

No history of updates, evaluations at arbitrary orders, hinted and per-segment evaluations, derivative constructions and
copies can make an evaluation return anything but the cache-free value of the latest data.  None of the proofs uses a law of
arithmetic, so they are written here once, for **every** type carrying the operations of the model (`NumOrd K`: `+ − * /`,
comparisons, floor — no axioms at all); `PPolyCache.lean` and `PPolyRoutes.lean` take the instance at an ordered field.
At `Float` the statements say *bit-identical*: a reused object answers exactly like a fresh one (`eval_after_history`), and
the batch overload returns exactly the pointwise values whatever cache state the earlier elements left behind
(`evaluateBatch_eq`).  (The hinted route is not in this file: its proof needs the order laws of the breakpoints, which NaN
breaks; it is in `PPolyRoutes.lean`, over an ordered field.)
-/
open ST

namespace AnyNum

section
variable {K : Type}

/-- the data an update installs (everything except the caches) -/
def sameData (p q : PPoly K) : Prop :=
  p.dim = q.dim ∧ p.fixedOrder = q.fixedOrder ∧ p.breakpoints = q.breakpoints ∧ p.coeffs = q.coeffs ∧
  p.numSegments = q.numSegments ∧ p.numCoeffs = q.numCoeffs ∧ p.initialized = q.initialized

theorem sameData.refl (p : PPoly K) : sameData p p := ⟨rfl, rfl, rfl, rfl, rfl, rfl, rfl⟩
theorem sameData.symm {p q : PPoly K} (h : sameData p q) : sameData q p :=
  ⟨h.1.symm, h.2.1.symm, h.2.2.1.symm, h.2.2.2.1.symm, h.2.2.2.2.1.symm, h.2.2.2.2.2.1.symm, h.2.2.2.2.2.2.symm⟩
theorem sameData.trans {p q r : PPoly K} (h1 : sameData p q) (h2 : sameData q r) : sameData p r := by
  obtain ⟨a1, a2, a3, a4, a5, a6, a7⟩ := h1
  obtain ⟨b1, b2, b3, b4, b5, b6, b7⟩ := h2
  exact ⟨a1.trans b1, a2.trans b2, a3.trans b3, a4.trans b4, a5.trans b5, a6.trans b6, a7.trans b7⟩
theorem sameData.dim_eq {p q : PPoly K} (h : sameData p q) : p.dim = q.dim := h.1
theorem sameData.breakpoints_eq {p q : PPoly K} (h : sameData p q) : p.breakpoints = q.breakpoints := h.2.2.1
theorem sameData.coeffs_eq {p q : PPoly K} (h : sameData p q) : p.coeffs = q.coeffs := h.2.2.2.1
theorem sameData.numSegments_eq {p q : PPoly K} (h : sameData p q) : p.numSegments = q.numSegments := h.2.2.2.2.1
theorem sameData.numCoeffs_eq {p q : PPoly K} (h : sameData p q) : p.numCoeffs = q.numCoeffs := h.2.2.2.2.2.1

end

section
variable {K : Type} [NumOrd K]

/-- the derivative-coefficient table computed from the current data, without any cache -/
def derivTable (p : PPoly K) : List (List (List (Vec K))) :=
  (List.range p.numCoeffs).map (fun d =>
    p.coeffs.map (fun seg =>
      (List.range (p.numCoeffs - d)).map (fun k => vscale (lit (factorEntry (k + d) d)) (seg.getD (k + d) []))))

/-- a set ready flag vouches for its cache.  `deriv`: the derivative cache is the table of the current data, or the empty
one `buildDerivativeCoefficients` leaves when there are no segments or no coefficients; `wf` links `numSegments`, which
that function tests, to `coeffs`, from which the table is computed -/
structure CacheInv (p : PPoly K) : Prop where
  deriv : p.derivReady = true → (p.coeffs = [] ∧ p.derivCoeffs = []) ∨ (p.numCoeffs = 0 ∧ p.derivCoeffs = []) ∨ p.derivCoeffs = derivTable p
  table : p.factorReady = true → p.factorTable = PPoly.buildTable p.numCoeffs
  wf : p.numSegments = 0 → p.coeffs = []

theorem derivTable_congr {p q : PPoly K} (h : sameData p q) : derivTable p = derivTable q := by
  simp only [derivTable, h.coeffs_eq, h.numCoeffs_eq]

theorem buildTable_get (nc n k : Nat) (hn : n < nc) (hk : k < nc) :
    ((PPoly.buildTable nc).getD n []).getD k 0 = factorEntry n k := by
  simp only [PPoly.buildTable, List.getD_eq_getElem?_getD, List.getElem?_map, List.getElem?_range hn,
    Option.map_some, Option.getD_some, List.getElem?_range hk]

theorem empty_inv (dim : Nat) (fo : Option Nat) : CacheInv (PPoly.empty dim fo : PPoly K) :=
  ⟨fun h => absurd h Bool.false_ne_true, fun h => absurd h Bool.false_ne_true, fun _ => rfl⟩

/-- every `update` outcome leaves both caches invalidated, so the invariant holds whatever went before -/
theorem init_inv (p : PPoly K) (bps : List K) (rows : List (Vec K)) (nc : Int) : CacheInv (p.init bps rows nc) := by
  rcases PPoly.init_eq p bps rows nc with ⟨_, h⟩ | ⟨_, h⟩ <;> rw [h]
  · exact ⟨fun h => absurd h Bool.false_ne_true, fun h => absurd h Bool.false_ne_true,
      fun h0 => by rw [PPoly.fresh, show bps.length - 1 = 0 from h0]; rfl⟩
  · exact empty_inv _ _

theorem ensureTable_inv (p : PPoly K) (h : CacheInv p) :
    CacheInv p.ensureTable ∧ sameData p p.ensureTable ∧ p.ensureTable.factorReady = true := by
  unfold PPoly.ensureTable
  split
  · rename_i hr; exact ⟨h, sameData.refl p, hr⟩
  · exact ⟨⟨h.deriv, fun _ => rfl, h.wf⟩, ⟨rfl, rfl, rfl, rfl, rfl, rfl, rfl⟩, rfl⟩

/-- `buildDerivativeCoefficients` and `derivative` both build the table first on some condition `c` -/
theorem ite_ensureTable_inv (p : PPoly K) (h : CacheInv p) (c : Prop) [Decidable c] :
    CacheInv (if c then p.ensureTable else p) ∧ sameData p (if c then p.ensureTable else p) := by
  split
  · exact ⟨(ensureTable_inv p h).1, (ensureTable_inv p h).2.1⟩
  · exact ⟨h, sameData.refl p⟩

/-- a factor lookup returns the falling-factorial entry whatever path it takes, and does not disturb the object -/
theorem derivativeFactor_spec (p : PPoly K) (h : CacheInv p) (n k : Nat) (hn : n < p.numCoeffs) :
    (p.derivativeFactor n k).2 = factorEntry n k ∧ CacheInv (p.derivativeFactor n k).1 ∧
    sameData p (p.derivativeFactor n k).1 := by
  unfold PPoly.derivativeFactor
  split
  · exact ⟨(if_neg (by omega)).symm, h, sameData.refl p⟩
  · split
    · exact ⟨rfl, h, sameData.refl p⟩
    · split
      · exact ⟨rfl, h, sameData.refl p⟩
      · obtain ⟨hi, hs, hr⟩ := ensureTable_inv p h
        refine ⟨?_, hi, hs⟩
        show ((p.ensureTable.factorTable.getD n []).getD k 0) = factorEntry n k
        rw [hi.table hr, ← hs.numCoeffs_eq]
        exact buildTable_get p.numCoeffs n k hn (by omega)

/-- `buildDerivativeCoefficients` fills the cache with exactly the table of the current data -/
theorem buildDerivCoeffs_spec (p : PPoly K) (h : CacheInv p) :
    CacheInv p.buildDerivCoeffs ∧ sameData p p.buildDerivCoeffs ∧ p.buildDerivCoeffs.derivReady = true := by
  unfold PPoly.buildDerivCoeffs
  split
  · rename_i h0
    refine ⟨⟨fun _ => ?_, h.table, h.wf⟩, ⟨rfl, rfl, rfl, rfl, rfl, rfl, rfl⟩, rfl⟩
    simp only [Bool.or_eq_true, decide_eq_true_eq] at h0
    exact h0.elim (fun h0 => .inl ⟨h.wf h0, rfl⟩) (fun h0 => .inr (.inl ⟨h0, rfl⟩))
  · -- the object after the optional table construction
    obtain ⟨hi1, hs1⟩ := ite_ensureTable_inv p h ((!p.usesStaticOnly && decide (p.numCoeffs > kStaticMax)) = true)
    generalize (if (!p.usesStaticOnly && decide (p.numCoeffs > kStaticMax)) = true then p.ensureTable else p) = p1
      at hi1 hs1 ⊢
    refine ⟨⟨fun _ => .inr (.inr ?_), hi1.table, hi1.wf⟩, hs1, rfl⟩
    show _ = derivTable p1
    unfold derivTable
    refine List.map_congr_left fun d hd => List.map_congr_left fun seg _ => List.map_congr_left fun k hk => ?_
    simp only [List.mem_range] at hd hk
    rw [(derivativeFactor_spec p1 hi1 (k + d) d (by omega)).1]

theorem ensureDerivCoeffs_spec (p : PPoly K) (h : CacheInv p) :
    CacheInv p.ensureDerivCoeffs ∧ sameData p p.ensureDerivCoeffs ∧ p.ensureDerivCoeffs.derivReady = true := by
  unfold PPoly.ensureDerivCoeffs
  split
  · rename_i hr; exact ⟨h, sameData.refl p, hr⟩
  · exact buildDerivCoeffs_spec p h

/-- cache-free evaluation of derivative `k` of piece `seg` at local time `t` -/
def evalSegPure (p : PPoly K) (seg : Nat) (t : K) (k : Int) : Vec K :=
  if k ≥ (p.numCoeffs : Int) || k < 0 then vzero p.dim
  else PPoly.horner t (((derivTable p).getD k.toNat []).getD seg [])

theorem evalSegPure_congr {p q : PPoly K} (h : sameData p q) (seg : Nat) (t : K) (k : Int) :
    evalSegPure p seg t k = evalSegPure q seg t k := by
  simp only [evalSegPure, derivTable_congr h, h.dim_eq, h.numCoeffs_eq]

/-- **an evaluation never serves stale data**: whatever the cache state (consistent with `CacheInv`), the value is
the cache-free evaluation of the current coefficients -/
theorem evalSegment_spec (p : PPoly K) (h : CacheInv p) (seg : Nat) (t : K) (k : Int) :
    (p.evalSegment seg t k).2 = evalSegPure p seg t k ∧ CacheInv (p.evalSegment seg t k).1 ∧
    sameData p (p.evalSegment seg t k).1 := by
  unfold PPoly.evalSegment evalSegPure
  split
  · exact ⟨rfl, h, sameData.refl p⟩
  · rename_i hk
    obtain ⟨hi, hs, hr⟩ := ensureDerivCoeffs_spec p h
    refine ⟨?_, hi, hs⟩
    simp only [Bool.or_eq_true, decide_eq_true_eq, not_or, not_le, not_lt] at hk
    show PPoly.horner t ((p.ensureDerivCoeffs.derivCoeffs.getD k.toNat []).getD seg []) = _
    rcases hi.deriv hr with ⟨hc, hd⟩ | ⟨hc, hd⟩ | hd
    · -- no segments: every row of the table is empty, like the cleared cache
      have hk2 : k.toNat < p.numCoeffs := by omega
      rw [hd]
      simp only [derivTable, hs.coeffs_eq.trans hc, List.map_nil, List.getD_eq_getElem?_getD, List.getElem?_map,
        List.getElem?_range hk2, Option.map_some, Option.getD_some, List.getElem?_nil, Option.getD_none]
    · have := hs.numCoeffs_eq.trans hc
      omega
    · rw [hd, derivTable_congr hs]

/-- the value of the plain evaluation as a function of the *data* only -/
def evalPure (p : PPoly K) (t : K) (k : Int) : Vec K :=
  if k ≥ (p.numCoeffs : Int) then vzero p.dim
  else evalSegPure p (p.findSegment t) (t - p.breakpoints.getD (p.findSegment t) (lit 0)) k

/-- `evalSegment_spec` for the time-based `evaluate(t, k)`: the lookup does not touch the object -/
theorem evaluate_spec (p : PPoly K) (h : CacheInv p) (t : K) (k : Int) :
    (p.evaluate t k).2 =
      (if k ≥ (p.numCoeffs : Int) then vzero p.dim
       else evalSegPure p (p.findSegment t) (t - p.breakpoints.getD (p.findSegment t) (lit 0)) k) ∧
    CacheInv (p.evaluate t k).1 ∧ sameData p (p.evaluate t k).1 := by
  unfold PPoly.evaluate
  split
  · exact ⟨rfl, h, sameData.refl p⟩
  · exact evalSegment_spec p h _ _ k

theorem evaluate_eq_pure (p : PPoly K) (h : CacheInv p) (t : K) (k : Int) : (p.evaluate t k).2 = evalPure p t k :=
  (evaluate_spec p h t k).1

theorem findSegment_congr {p q : PPoly K} (h : sameData p q) (t : K) : p.findSegment t = q.findSegment t := by
  simp only [PPoly.findSegment, h.breakpoints_eq, h.numSegments_eq]

theorem evalPure_congr {p q : PPoly K} (h : sameData p q) (t : K) (k : Int) : evalPure p t k = evalPure q t k := by
  simp only [evalPure, evalSegPure_congr h, findSegment_congr h, h.dim_eq, h.numCoeffs_eq, h.breakpoints_eq]

/-- the step of every loop that threads an object through evaluations: an object with the data of `p` answers
`evalPure p` and stays one -/
theorem evaluate_sameData {p q : PPoly K} (hq : CacheInv q) (hpq : sameData p q) (t : K) (k : Int) :
    (q.evaluate t k).2 = evalPure p t k ∧ CacheInv (q.evaluate t k).1 ∧ sameData p (q.evaluate t k).1 :=
  have ⟨e1, e2, e3⟩ := evaluate_spec q hq t k
  ⟨e1.trans (evalPure_congr hpq t k).symm, e2, hpq.trans e3⟩

/-- the outcome of an update depends on the old object only through its (immutable) dimension and order parameter -/
theorem init_sameData (p p' : PPoly K) (bps : List K) (rows : List (Vec K)) (nc : Int)
    (hd : p.dim = p'.dim) (hf : p.fixedOrder = p'.fixedOrder) : sameData (p.init bps rows nc) (p'.init bps rows nc) := by
  rw [PPoly.init_eq_empty_init p, PPoly.init_eq_empty_init p', hd, hf]
  exact sameData.refl _

/-- operations on a piecewise-polynomial object (copies are identities in a value model) -/
inductive POp (K : Type) where
  | update (bps : List K) (rows : List (Vec K)) (nc : Int)
  | eval (t : K) (k : Int)
  | evalHint (t : K) (hint : Int) (k : Int)
  | segEval (seg : Nat) (t : K) (k : Int)
  | deriv (k : Int)

def applyA (p : PPoly K) : POp K → PPoly K
  | .update bps rows nc => p.init bps rows nc
  | .eval t k => (p.evaluate t k).1
  | .evalHint t hint k => (p.evaluateHint t hint k).1
  | .segEval seg t k => (p.evalSegment seg t k).1
  | .deriv k => (p.derivative k).1

theorem evaluateHint_inv (p : PPoly K) (h : CacheInv p) (t : K) (hint k : Int) :
    CacheInv (p.evaluateHint t hint k).1 ∧ sameData p (p.evaluateHint t hint k).1 := by
  unfold PPoly.evaluateHint
  split
  · exact ⟨h, sameData.refl p⟩
  · exact (evalSegment_spec p h _ _ k).2

theorem derivative_inv (p : PPoly K) (h : CacheInv p) (k : Int) :
    CacheInv (p.derivative k).1 ∧ sameData p (p.derivative k).1 ∧ CacheInv (p.derivative k).2 := by
  unfold PPoly.derivative
  split
  · exact ⟨h, sameData.refl p, empty_inv _ _⟩
  · split
    · exact ⟨h, sameData.refl p, init_inv _ _ _ _⟩
    · exact ⟨(ite_ensureTable_inv p h _).1, (ite_ensureTable_inv p h _).2, init_inv _ _ _ _⟩

/-- every operation leaves the caches consistent with the data -/
theorem apply_inv (p : PPoly K) (h : CacheInv p) (op : POp K) : CacheInv (applyA p op) := by
  cases op with
  | update bps rows nc => exact init_inv p bps rows nc
  | eval t k => exact (evaluate_spec p h t k).2.1
  | evalHint t hint k => exact (evaluateHint_inv p h t hint k).1
  | segEval seg t k => exact (evalSegment_spec p h seg t k).2.1
  | deriv k => exact (derivative_inv p h k).1

def POp.isUpdate : POp K → Bool
  | .update .. => true
  | _ => false

theorem apply_data (p : PPoly K) (h : CacheInv p) (op : POp K) (hop : op.isUpdate = false) : sameData p (applyA p op) := by
  cases op with
  | update bps rows nc => exact Bool.noConfusion hop
  | eval t k => exact (evaluate_spec p h t k).2.2
  | evalHint t hint k => exact (evaluateHint_inv p h t hint k).2
  | segEval seg t k => exact (evalSegment_spec p h seg t k).2.2
  | deriv k => exact (derivative_inv p h k).2.1

def runA (p : PPoly K) : List (POp K) → PPoly K
  | [] => p
  | op :: ops => runA (applyA p op) ops

theorem run_inv (p : PPoly K) (h : CacheInv p) (ops : List (POp K)) : CacheInv (runA p ops) := by
  induction ops generalizing p with
  | nil => exact h
  | cons op ops ih => exact ih _ (apply_inv p h op)

theorem run_data (p : PPoly K) (h : CacheInv p) (ops : List (POp K)) (hops : ∀ op ∈ ops, op.isUpdate = false) :
    sameData p (runA p ops) := by
  induction ops generalizing p with
  | nil => exact sameData.refl p
  | cons op ops ih =>
    exact (apply_data p h op (hops op List.mem_cons_self)).trans
      (ih _ (apply_inv p h op) (fun o ho => hops o (List.mem_cons_of_mem _ ho)))

/-- **C11**: take any object state, any history `pre`, then an update with new data, then any history `post` of
evaluations at arbitrary orders / hinted evaluations / per-segment evaluations / derivative constructions: a final
evaluation returns what a fresh object initialised with the same data returns — nothing of what happened before or in
between can leak into it.  (`dim` and `fixedOrder` stand for the template parameters `DIM`, `ORDER`; the two premises
say that `pre` has left them alone.) -/
theorem eval_after_history (p0 : PPoly K) (h0 : CacheInv p0) (pre post : List (POp K))
    (bps : List K) (rows : List (Vec K)) (nc : Int) (hpost : ∀ op ∈ post, op.isUpdate = false) (t : K) (k : Int) :
    let fresh := (PPoly.empty p0.dim p0.fixedOrder : PPoly K).init bps rows nc
    let q := runA ((runA p0 pre).init bps rows nc) post
    (runA p0 pre).dim = p0.dim → (runA p0 pre).fixedOrder = p0.fixedOrder →
    (q.evaluate t k).2 = (fresh.evaluate t k).2 := by
  intro fresh q hdim hfo
  -- the update re-establishes the invariant whatever state it finds (so `h0` plays no part)
  have hu := init_inv (runA p0 pre) bps rows nc
  -- the object at the end carries the data of the update, and so does the fresh one
  have hqf : sameData q fresh :=
    (run_data _ hu post hpost).symm.trans (init_sameData _ _ bps rows nc hdim hfo)
  rw [evaluate_eq_pure q (run_inv _ hu post), evaluate_eq_pure fresh (init_inv _ _ _ _), evalPure_congr hqf]

/-- **batch = pointwise**, for every scalar type -/
theorem evaluateBatch_eq (p : PPoly K) (h : CacheInv p) (ts : List K) (k : Int) :
    (p.evaluateBatch ts k).2 = ts.map (fun t => (p.evaluate t k).2) := by
  -- the object threaded through the batch keeps the invariant and the data, so every element sees `evalPure p`
  have := (List.foldl_collect (fun q t => q.evaluate t k) (fun t => evalPure p t k) (fun q => CacheInv q ∧ sameData p q)
    (fun q t ⟨hq, hpq⟩ => have ⟨e1, e2⟩ := evaluate_sameData hq hpq t k; ⟨e2, e1⟩) ts p [] ⟨h, sameData.refl p⟩).2
  exact this.trans (List.map_congr_left fun t _ => (evaluate_eq_pure p h t k).symm)

end

/-- the IEEE-double instance: a reused `PPolyND<double>` object and a fresh one answer bit for bit alike -/
theorem eval_after_history_float (p0 : PPoly Float) (h0 : CacheInv p0) (pre post : List (POp Float))
    (bps : List Float) (rows : List (Vec Float)) (nc : Int) (hpost : ∀ op ∈ post, op.isUpdate = false) (t : Float) (k : Int)
    (hdim : (runA p0 pre).dim = p0.dim) (hfo : (runA p0 pre).fixedOrder = p0.fixedOrder) :
    ((runA ((runA p0 pre).init bps rows nc) post).evaluate t k).2
      = (((PPoly.empty p0.dim p0.fixedOrder : PPoly Float).init bps rows nc).evaluate t k).2 :=
  eval_after_history p0 h0 pre post bps rows nc hpost t k hdim hfo

/-- non-vacuity: the freshly constructed empty object satisfies the invariant -/
example : CacheInv (PPoly.empty 3 none : PPoly Float) :=
  empty_inv 3 none

end AnyNum
