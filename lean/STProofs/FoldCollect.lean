import Mathlib.Tactic.Linarith
/-!
# A loop that threads a state and collects one output per element

`evaluateBatch` (state: the object with its caches), the quadrature loop (state: the cost accumulator) and the loop of
`checkGradients` (state: the working copy of the decision vector) all have this shape.  If an invariant `I` of the state is
kept by every step and under it the output of a step is `f a` whatever the state, the collected list is `l.map f`.
-/

theorem List.foldl_collect {σ α β : Type} (step : σ → α → σ × β) (f : α → β) (I : σ → Prop)
    (hstep : ∀ s a, I s → I (step s a).1 ∧ (step s a).2 = f a) (l : List α) (s : σ) (acc : List β) (hs : I s) :
    I (l.foldl (fun st a => ((step st.1 a).1, st.2 ++ [(step st.1 a).2])) (s, acc)).1 ∧
    (l.foldl (fun st a => ((step st.1 a).1, st.2 ++ [(step st.1 a).2])) (s, acc)).2 = acc ++ l.map f := by
  induction l generalizing s acc with
  | nil => exact ⟨hs, (List.append_nil acc).symm⟩
  | cons a l ih =>
    obtain ⟨h1, h2⟩ := hstep s a hs
    have := ih (step s a).1 (acc ++ [(step s a).2]) h1
    rw [List.append_assoc, List.singleton_append] at this
    rw [List.map_cons, ← h2]
    exact this
