import STProofs.Layout
import STProofs.Alg
/-!
# C09 — the initial guess decodes back to the reference; unflagged quantities stay pinned (every N, flags, maps)

`generateInitialGuess` writes `toTau(T_ref)`, then `toUnconstrained(P_ref[i])` for every optimised waypoint at its
layout offset, then every flagged boundary block; `decode` reads the same slices.  The slices are packed (each starts
where the previous one ends: `layoutFrom_packed`), hence disjoint, so every read returns what was written
(`applyW_spec`), and with maps that invert each other on the reference data the decoded problem is the reference problem
(`roundtrip`).  `writes` lists the slices with their contents once, for `generateInitialGuess` here and for the gradient
assembly in `Assemble`; they tile `[0, total)` (`tiled_writes`).  Independently of the decision vector, a waypoint that
is not optimised and a boundary block that is not flagged keep their reference value (`decode_pinned_waypoint`,
`decode_pinned_block`).
-/
open ST

namespace RoundTrip
variable {α : Type}

theorem writeAt_length (x : List α) (off : Nat) (v : List α) (h : off + v.length ≤ x.length) :
    (writeAt x off v).length = x.length := by
  simp only [writeAt, List.length_append, List.length_take, List.length_drop]; omega

theorem segment_writeAt_same (x : List α) (off : Nat) (v : List α) (h : off + v.length ≤ x.length) :
    segment (writeAt x off v) off v.length = v := by
  simp only [segment, writeAt]
  have h1 : (x.take off).length = off := by simp; omega
  rw [List.append_assoc, List.drop_append_of_le_length (by omega), List.drop_of_length_le (by omega), List.nil_append,
    List.take_append_of_le_length (by omega), List.take_length]

theorem segment_writeAt_before (x : List α) (off : Nat) (v : List α) (off' len' : Nat) (hd : off' + len' ≤ off)
    (h : off + v.length ≤ x.length) : segment (writeAt x off v) off' len' = segment x off' len' := by
  simp only [segment, writeAt]
  have h1 : (x.take off).length = off := by simp; omega
  rw [List.append_assoc, List.drop_append_of_le_length (by omega), List.take_append_of_le_length (by simp; omega)]
  rw [List.drop_take, List.take_take]
  congr 1
  omega

theorem segment_writeAt_after (x : List α) (off : Nat) (v : List α) (off' len' : Nat) (hd : off + v.length ≤ off')
    (h : off + v.length ≤ x.length) : segment (writeAt x off v) off' len' = segment x off' len' := by
  simp only [segment, writeAt]
  have h1 : (x.take off ++ v).length = off + v.length := by simp; omega
  rw [List.drop_append (l₁ := x.take off ++ v), List.drop_of_length_le (by rw [h1]; omega), List.nil_append, h1, List.drop_drop]
  congr 2
  omega

theorem segment_length (x : List α) (off len : Nat) (h : off + len ≤ x.length) :
    (segment x off len).length = len := by
  simp only [segment, List.length_take, List.length_drop]; omega

theorem segment_add (x : List α) (off a b : Nat) :
    segment x off (a + b) = segment x off a ++ segment x (off + a) b := by
  simp only [segment, List.take_add, List.drop_drop]

theorem segment_map {γ : Type} (f : α → γ) (x : List α) (off len : Nat) :
    (segment x off len).map f = segment (x.map f) off len := by
  simp [segment, List.map_take, List.map_drop]

theorem getD_segment (x : List α) (off len i : Nat) (z : α) (hi : i < len) :
    (segment x off len).getD i z = x.getD (off + i) z := by
  simp [segment, List.getD_eq_getElem?_getD, hi]

theorem range_map_getD {γ : Type} (f : α → γ) (x : List α) (z : α) (n : Nat) (h : n ≤ x.length) :
    (List.range n).map (fun i => f (x.getD i z)) = (segment x 0 n).map f := by
  apply List.ext_getElem
  · simp [segment, h]
  · intro i h1 _
    simp only [List.length_map, List.length_range] at h1
    simp [segment, List.getD_eq_getElem?_getD, List.getElem?_eq_getElem (show i < x.length by omega)]

/-! ## a sequence of writes to packed slices -/

def applyW (x : List α) (ws : List (Nat × List α)) : List α := ws.foldl (fun x w => writeAt x w.1 w.2) x

theorem applyW_cons (x : List α) (w : Nat × List α) (ws : List (Nat × List α)) :
    applyW x (w :: ws) = applyW (writeAt x w.1 w.2) ws := rfl

def PackedW (hi : Nat) : Nat → List (Nat × List α) → Prop
  | lo, [] => lo ≤ hi
  | lo, w :: ws => lo ≤ w.1 ∧ PackedW hi (w.1 + w.2.length) ws

theorem packedW_le (hi lo : Nat) (ws : List (Nat × List α)) (h : PackedW hi lo ws) : lo ≤ hi := by
  induction ws generalizing lo with
  | nil => exact h
  | cons w ws ih => have := ih _ h.2; have := h.1; omega

theorem applyW_spec (x : List α) (ws : List (Nat × List α)) (lo hi : Nat) (hp : PackedW hi lo ws) (hx : hi ≤ x.length) :
    (applyW x ws).length = x.length ∧
    (∀ w ∈ ws, segment (applyW x ws) w.1 w.2.length = w.2) ∧
    (∀ off len, off + len ≤ lo → segment (applyW x ws) off len = segment x off len) ∧
    (∀ off len, hi ≤ off → segment (applyW x ws) off len = segment x off len) := by
  induction ws generalizing x lo with
  | nil => exact ⟨rfl, by simp, fun _ _ _ => rfl, fun _ _ _ => rfl⟩
  | cons w ws ih =>
    obtain ⟨hlo, hp'⟩ := hp
    have hle := packedW_le hi _ ws hp'
    have hb : w.1 + w.2.length ≤ x.length := by omega
    have hlen := writeAt_length x w.1 w.2 hb
    obtain ⟨i1, i2, i3, i4⟩ := ih (writeAt x w.1 w.2) (w.1 + w.2.length) hp' (by rw [hlen]; exact hx)
    rw [applyW_cons]
    refine ⟨i1.trans hlen, ?_, ?_, ?_⟩
    · intro w' hw'
      rcases List.mem_cons.mp hw' with rfl | hin
      · rw [i3 w'.1 w'.2.length (le_refl _), segment_writeAt_same x w'.1 w'.2 hb]
      · exact i2 w' hin
    · intro off len hol
      rw [i3 off len (by omega), segment_writeAt_before x w.1 w.2 off len (by omega) hb]
    · intro off len hol
      rw [i4 off len hol, segment_writeAt_after x w.1 w.2 off len (by omega) hb]

/-- the writes tile `[lo, hi)`: each starts where the one before it ends -/
def Tiled : Nat → List (Nat × List α) → Nat → Prop
  | lo, [], hi => lo = hi
  | lo, w :: ws, hi => w.1 = lo ∧ Tiled (lo + w.2.length) ws hi

theorem Tiled.append {lo mid hi : Nat} {a b : List (Nat × List α)} (ha : Tiled lo a mid) (hb : Tiled mid b hi) :
    Tiled lo (a ++ b) hi := by
  induction a generalizing lo with
  | nil => rw [show lo = mid from ha]; exact hb
  | cons w ws ih => exact ⟨ha.1, ih ha.2⟩

theorem Tiled.packedW {lo hi : Nat} {ws : List (Nat × List α)} (h : Tiled lo ws hi) : PackedW hi lo ws := by
  induction ws generalizing lo with
  | nil => exact le_of_eq h
  | cons w ws ih => exact ⟨ge_of_eq h.1, h.1 ▸ ih h.2⟩

theorem Tiled.le {lo hi : Nat} {ws : List (Nat × List α)} (h : Tiled lo ws hi) : lo ≤ hi :=
  packedW_le hi lo ws h.packedW

/-! ## the layout packs its slices -/

/-- slices of the spatial variables: consecutive, starting at `off`; points strictly increasing from `i`.  Where `LayoutOK`
(the specification of `layout_spec`) gives each offset as a sum over the points before it, this says that each slice starts
where the one before it ends, which is what disjointness of the slices needs. -/
def PackedL (hi : Nat) : Nat → Nat → List LayoutVar → Prop
  | _, off, [] => off = hi
  | i, off, v :: vs => i ≤ v.point ∧ v.offset = off ∧ PackedL hi (v.point + 1) (off + v.dof) vs

theorem packedL_shift {hi lo off : Nat} {vs : List LayoutVar} (h : PackedL hi (lo + 1) off vs) : PackedL hi lo off vs := by
  cases vs with
  | nil => exact h
  | cons v vs => exact ⟨by have := h.1; omega, h.2.1, h.2.2⟩

theorem packedL_le_point (hi lo off : Nat) (vs : List LayoutVar) (h : PackedL hi lo off vs) : ∀ v ∈ vs, lo ≤ v.point := by
  induction vs generalizing lo off with
  | nil => simp
  | cons u vs ih =>
    intro v hv
    rcases List.mem_cons.mp hv with rfl | h'
    · exact h.1
    · have := ih _ _ h.2.2 v h'; have := h.1; omega

theorem packedL_bounds (hi lo off : Nat) (vs : List LayoutVar) (h : PackedL hi lo off vs) :
    off ≤ hi ∧ ∀ v ∈ vs, off ≤ v.offset ∧ v.offset + v.dof ≤ hi := by
  induction vs generalizing lo off with
  | nil => simp only [PackedL] at h; subst h; exact ⟨le_refl _, by simp⟩
  | cons u vs ih =>
    obtain ⟨_, ho, hp⟩ := h
    obtain ⟨a, b⟩ := ih _ _ hp
    refine ⟨by omega, ?_⟩
    intro v hv
    rcases List.mem_cons.mp hv with rfl | hin
    · exact ⟨by omega, by omega⟩
    · have := b v hin; exact ⟨by omega, this.2⟩

theorem layoutFrom_packed (f : Flags) (n : Nat) (udim : Nat → Nat) (fuel i off : Nat) :
    PackedL (layoutFrom f n udim fuel i off).2 i off (layoutFrom f n udim fuel i off).1 ∧
    ∀ v ∈ (layoutFrom f n udim fuel i off).1, v.dof = udim v.point ∧ spatialOptimized f n v.point = true := by
  induction fuel generalizing i off with
  | zero => simp [layoutFrom, PackedL]
  | succ k ih =>
    simp only [layoutFrom]
    split
    · rename_i h
      obtain ⟨h1, h2⟩ := ih (i + 1) (off + udim i)
      refine ⟨⟨le_refl _, rfl, h1⟩, ?_⟩
      intro v hv
      rcases List.mem_cons.mp hv with rfl | hin
      · exact ⟨rfl, h⟩
      · exact h2 v hin
    · obtain ⟨h1, h2⟩ := ih (i + 1) off
      exact ⟨packedL_shift h1, h2⟩

theorem layoutFrom_point_lt (f : Flags) (n : Nat) (udim : Nat → Nat) (fuel i off : Nat) :
    ∀ v ∈ (layoutFrom f n udim fuel i off).1, v.point < i + fuel := by
  induction fuel generalizing i off with
  | zero => simp [layoutFrom]
  | succ k ih =>
    simp only [layoutFrom]
    split
    · intro v hv
      rcases List.mem_cons.mp hv with rfl | hin
      · simp
      · have := ih (i + 1) _ v hin; omega
    · intro v hv; have := ih (i + 1) _ v hv; omega

/-- what the proofs need of a configuration's layout: packed point slices from `n` to `derivOffset`, each of an optimised
point `≤ n` with `udim` coordinates, then the blocks up to `total` -/
theorem layout_packed {β : Type} (c : Config β) (hn : c.n ≠ 0) :
    PackedL c.layout.derivOffset 0 c.n c.layout.vars ∧
    (∀ v ∈ c.layout.vars, v.dof = c.sm.udim v.point ∧ spatialOptimized c.flags c.n v.point = true ∧ v.point ≤ c.n) ∧
    c.layout.total = c.layout.derivOffset + (derivBlocks c.order c.flags).length * c.dim := by
  rw [Config.layout, layout_eq_layoutFrom _ _ _ _ _ hn]
  obtain ⟨hp, hv⟩ := layoutFrom_packed c.flags c.n c.sm.udim (c.n + 1) 0 c.n
  exact ⟨hp, fun v h => ⟨(hv v h).1, (hv v h).2, by have := layoutFrom_point_lt c.flags c.n c.sm.udim (c.n + 1) 0 c.n v h; omega⟩,
    rfl⟩

/-! ## the rows and blocks `decode` writes -/

theorem foldl_setRow_length {β : Type} (vs : List LayoutVar) (val : LayoutVar → List β) (w0 : List (List β)) :
    (vs.foldl (fun w v => setRow w v.point (val v)) w0).length = w0.length := by
  induction vs generalizing w0 with
  | nil => rfl
  | cons v vs ih => rw [List.foldl_cons, ih]; simp [setRow]

theorem foldl_setRow_getD_ne {β : Type} (vs : List LayoutVar) (val : LayoutVar → List β) (w0 : List (List β)) (i : Nat)
    (h : ∀ v ∈ vs, v.point ≠ i) :
    (vs.foldl (fun w v => setRow w v.point (val v)) w0).getD i [] = w0.getD i [] := by
  induction vs generalizing w0 with
  | nil => rfl
  | cons v vs ih =>
    rw [List.foldl_cons, ih _ (fun x hx => h x (by simp [hx]))]
    simp only [setRow, List.getD_eq_getElem?_getD]
    rw [List.getElem?_set_ne (h v (by simp))]

theorem foldl_setRow_get {β : Type} (vs : List LayoutVar) (val : LayoutVar → List β) (w0 : List (List β)) {hi lo off : Nat}
    (hpk : PackedL hi lo off vs) (v : LayoutVar) (hv : v ∈ vs)
    (hlen : ∀ u ∈ vs, u.point < w0.length) :
    (vs.foldl (fun w u => setRow w u.point (val u)) w0).getD v.point [] = val v := by
  induction vs generalizing w0 lo off with
  | nil => simp at hv
  | cons u vs ih =>
    obtain ⟨-, -, hp'⟩ := hpk
    rw [List.foldl_cons]
    rcases List.mem_cons.mp hv with rfl | hin
    · -- later writes touch other rows
      rw [foldl_setRow_getD_ne vs val _ v.point
        (fun u' hu' => by have := packedL_le_point _ _ _ vs hp' u' hu'; omega)]
      simp only [setRow, List.getD_eq_getElem?_getD]
      rw [List.getElem?_set_self (hlen v (by simp))]
      rfl
    · exact ih (setRow w0 u.point (val u)) hp' hin
        (by intro z hz; simp only [setRow, List.length_set]; exact hlen z (by simp [hz]))

theorem foldl_setRow_id {β : Type} (vs : List LayoutVar) (val : LayoutVar → List β) (w0 : List (List β))
    (h : ∀ v ∈ vs, val v = w0.getD v.point []) :
    vs.foldl (fun w v => setRow w v.point (val v)) w0 = w0 := by
  induction vs with
  | nil => rfl
  | cons v vs ih =>
    rw [List.foldl_cons, h v (by simp)]
    have : setRow w0 v.point (w0.getD v.point []) = w0 := by
      simp only [setRow]
      by_cases hp : v.point < w0.length
      · have : w0.getD v.point [] = w0[v.point] := by simp [List.getD_eq_getElem?_getD, hp]
        rw [this]; exact List.set_getElem_self hp
      · exact List.set_eq_of_length_le (by omega)
    rw [this]
    exact ih (fun x hx => h x (by simp [hx]))

theorem getBlock_setBlock_ne {β : Type} (bc : BC β) (b b' : DBlock) (v : Vec β) (h : b ≠ b') :
    (bc.setBlock b' v).getBlock b = bc.getBlock b := by
  cases b <;> cases b' <;> first | rfl | exact absurd rfl h

theorem getBlock_setBlock_self {β : Type} (bc : BC β) (b : DBlock) (v : Vec β) : (bc.setBlock b v).getBlock b = v := by
  cases b <;> rfl

theorem setBlock_getBlock {β : Type} (bc : BC β) (b : DBlock) : bc.setBlock b (bc.getBlock b) = bc := by
  cases b <;> rfl

theorem fold_getBlock_ne {β : Type} (d : Nat) (x : List β) (bs : List DBlock) (bc : BC β) (off : Nat) (b : DBlock)
    (hb : b ∉ bs) :
    (bs.foldl (fun (acc : BC β × Nat) b' => (acc.1.setBlock b' (segment x acc.2 d), acc.2 + d)) (bc, off)).1.getBlock b
      = bc.getBlock b := by
  induction bs generalizing bc off with
  | nil => rfl
  | cons b' bs ih =>
    simp only [List.foldl_cons]
    rw [ih _ _ (fun hh => hb (by simp [hh])), getBlock_setBlock_ne bc b b' _ (fun e => hb (by simp [e]))]

/-! ## what `decode` returns -/

theorem decode_times [Num α] (c : Config α) (x : List α) :
    (decode c x).times = (List.range c.n).map (fun i => c.tm.toTime (x.getD i (lit 0))) := rfl

theorem decode_waypoints [Num α] (c : Config α) (x : List α) :
    (decode c x).waypoints = c.layout.vars.foldl
      (fun w v => setRow w v.point (c.sm.toPhysical (segment x v.offset v.dof) v.point)) c.refWaypoints := rfl

theorem decode_bc [Num α] (c : Config α) (x : List α) :
    (decode c x).bc = ((derivBlocks c.order c.flags).foldl
      (fun (acc : BC α × Nat) b => (acc.1.setBlock b (segment x acc.2 c.dim), acc.2 + c.dim)) (c.refBC, c.layout.derivOffset)).1 := rfl

@[simp] theorem decode_times_length [Num α] (c : Config α) (x : List α) : (decode c x).times.length = c.n := by
  rw [decode_times, List.length_map, List.length_range]

theorem decode_wps_length [Num α] (c : Config α) (x : List α) : (decode c x).waypoints.length = c.refWaypoints.length :=
  foldl_setRow_length _ _ _

/-- the counterpart of `decode_pinned_wp`: an optimised waypoint is the spatial map's image of its slice -/
theorem decode_optimised_wp [Num α] (c : Config α) (x : List α) (hn : c.n ≠ 0) (hwl : c.refWaypoints.length = c.n + 1)
    (v : LayoutVar) (hv : v ∈ c.layout.vars) :
    (decode c x).waypoints.getD v.point [] = c.sm.toPhysical (segment x v.offset v.dof) v.point := by
  obtain ⟨hpk, hvs, -⟩ := layout_packed c hn
  exact foldl_setRow_get _ _ c.refWaypoints hpk v hv (fun u hu => by have := (hvs u hu).2.2; omega)

end RoundTrip

/-! ## pinning: what is not flagged keeps its reference value for every decision vector and every scalar type -/

namespace EvaluateGrad

theorem decode_pinned_wp {α : Type} [Num α] (c : Config α) (x : List α) (i : Nat) (hn : c.n ≠ 0)
    (hi : spatialOptimized c.flags c.n i = false) :
    (decode c x).waypoints.getD i [] = c.refWaypoints.getD i [] := by
  apply RoundTrip.foldl_setRow_getD_ne
  intro v hv hvi
  have := ((RoundTrip.layout_packed c hn).2.1 v hv).2.1
  rw [hvi, hi] at this
  exact Bool.false_ne_true this

theorem decode_pinned_blk {α : Type} [Num α] (c : Config α) (x : List α) (b : DBlock) (hb : b ∉ derivBlocks c.order c.flags) :
    (decode c x).bc.getBlock b = c.refBC.getBlock b :=
  RoundTrip.fold_getBlock_ne c.dim x _ c.refBC _ b hb

end EvaluateGrad

namespace RoundTrip

/-! ## decode ∘ initialGuess -/
section rt
variable {K : Type} [Field K]

/-- what the maps and the reference data have to satisfy (the identity maps do: `refOK_identity`; `tmInv` for the default
time map over ℝ: `toTime_toTau` in `TimeMap`) -/
structure RefOK (c : Config K) : Prop where
  hn : 0 < c.n
  tmInv : ∀ T ∈ c.refTimes, c.tm.toTime (c.tm.toTau T) = T
  smInv : ∀ i, i ≤ c.n → c.sm.toPhysical (c.sm.toUnconstrained (c.refWaypoints.getD i []) i) i = c.refWaypoints.getD i []
  smLen : ∀ i, i ≤ c.n → (c.sm.toUnconstrained (c.refWaypoints.getD i []) i).length = c.sm.udim i
  bcLen : ∀ b ∈ derivBlocks c.order c.flags, (c.refBC.getBlock b).length = c.dim

def blockW {β : Type} (d : Nat) (val : DBlock → List β) : Nat → List DBlock → List (Nat × List β)
  | _, [] => []
  | off, b :: bs => (off, val b) :: blockW d val (off + d) bs

theorem blocks_foldl {β : Type} (d : Nat) (val : DBlock → List β) (bs : List DBlock) (x : List β) (off : Nat) :
    (bs.foldl (fun (acc : List β × Nat) b => (writeAt acc.1 acc.2 (val b), acc.2 + d)) (x, off)).1
      = applyW x (blockW d val off bs) := by
  induction bs generalizing x off with
  | nil => rfl
  | cons b bs ih => simp only [List.foldl_cons, blockW, applyW] at ih ⊢; exact ih _ _

theorem tiled_blocks {β : Type} (d : Nat) (val : DBlock → List β) (bs : List DBlock) (off : Nat)
    (hl : ∀ b ∈ bs, (val b).length = d) : Tiled off (blockW d val off bs) (off + bs.length * d) := by
  induction bs generalizing off with
  | nil => simp [blockW, Tiled]
  | cons b bs ih =>
    refine ⟨rfl, ?_⟩
    rw [hl b (by simp), List.length_cons, show off + (bs.length + 1) * d = off + d + bs.length * d by ring]
    exact ih (off + d) (fun x hx => hl x (by simp [hx]))

theorem tiled_vars {β : Type} (val : LayoutVar → List β) (vs : List LayoutVar) (hi i off : Nat) (hp : PackedL hi i off vs)
    (hl : ∀ v ∈ vs, (val v).length = v.dof) : Tiled off (vs.map (fun v => (v.offset, val v))) hi := by
  induction vs generalizing i off with
  | nil => exact hp
  | cons v vs ih =>
    refine ⟨hp.2.1, ?_⟩
    rw [hl v (by simp)]
    exact ih _ _ hp.2.2 (fun x hx => hl x (by simp [hx]))

/-- the slices of a decision vector in layout order (durations, optimised points, flagged boundary blocks), each with
the contents `tv`, `pv`, `bv` give it: what `generateInitialGuess` and the gradient assembly of `evaluate` write -/
def writes {β γ : Type} (c : Config β) (tv : List γ) (pv : LayoutVar → List γ) (bv : DBlock → List γ) : List (Nat × List γ) :=
  (0, tv) :: (c.layout.vars.map (fun v => (v.offset, pv v))
    ++ blockW c.dim bv c.layout.derivOffset (derivBlocks c.order c.flags))

theorem mem_writes {β γ : Type} (c : Config β) (tv : List γ) (pv : LayoutVar → List γ) (bv : DBlock → List γ) (w : Nat × List γ) :
    w ∈ writes c tv pv bv ↔ w = (0, tv) ∨ (∃ v ∈ c.layout.vars, (v.offset, pv v) = w)
      ∨ w ∈ blockW c.dim bv c.layout.derivOffset (derivBlocks c.order c.flags) := by
  rw [writes, List.mem_cons, List.mem_append, List.mem_map]

theorem tiled_writes {β γ : Type} (c : Config β) (hn : c.n ≠ 0) (tv : List γ) (pv : LayoutVar → List γ) (bv : DBlock → List γ)
    (htv : tv.length = c.n) (hpv : ∀ v ∈ c.layout.vars, (pv v).length = v.dof)
    (hbv : ∀ b ∈ derivBlocks c.order c.flags, (bv b).length = c.dim) : Tiled 0 (writes c tv pv bv) c.layout.total := by
  obtain ⟨hpk, -, htot⟩ := layout_packed c hn
  refine ⟨rfl, ?_⟩
  rw [Nat.zero_add, htv, htot]
  exact (tiled_vars pv _ _ 0 c.n hpk hpv).append (tiled_blocks c.dim bv _ _ hbv)

theorem initialGuess_eq (c : Config K) :
    initialGuess c = applyW (List.replicate c.layout.total (lit 0)) (writes c (c.refTimes.map c.tm.toTau)
      (fun v => c.sm.toUnconstrained (c.refWaypoints.getD v.point []) v.point) c.refBC.getBlock) := by
  simp only [initialGuess, blocks_foldl, writes, applyW, List.foldl_cons, List.foldl_append, List.foldl_map]

theorem blocks_decode_id {β : Type} (d : Nat) (x : List β) (bc : BC β) (bs : List DBlock) (off : Nat)
    (hl : ∀ b ∈ bs, (bc.getBlock b).length = d)
    (h : ∀ w ∈ blockW d bc.getBlock off bs, segment x w.1 w.2.length = w.2) :
    (bs.foldl (fun (acc : BC β × Nat) b => (acc.1.setBlock b (segment x acc.2 d), acc.2 + d)) (bc, off)).1 = bc := by
  induction bs generalizing off with
  | nil => rfl
  | cons b bs ih =>
    have h0 := h (off, bc.getBlock b) (by simp [blockW])
    rw [hl b (by simp)] at h0
    rw [List.foldl_cons, h0, setBlock_getBlock]
    exact ih (off + d) (fun b hb => hl b (by simp [hb])) (fun w hw => h w (by simp [blockW, hw]))

theorem applyW_append (x : List K) (a b : List (Nat × List K)) : applyW (applyW x a) b = applyW x (a ++ b) := by
  simp [applyW, List.foldl_append]

/-- **C09: the generated initial guess decodes back to the reference durations, waypoints and boundary states** -/
theorem roundtrip (c : Config K) (h : RefOK c) :
    (decode c (initialGuess c)).times = c.refTimes ∧ (decode c (initialGuess c)).waypoints = c.refWaypoints ∧
    (decode c (initialGuess c)).bc = c.refBC := by
  have hne : c.n ≠ 0 := Nat.pos_iff_ne_zero.mp h.hn
  obtain ⟨-, hvs, -⟩ := layout_packed c hne
  have htul : ∀ v ∈ c.layout.vars, (c.sm.toUnconstrained (c.refWaypoints.getD v.point []) v.point).length = v.dof :=
    fun v hv => (hvs v hv).1 ▸ h.smLen v.point (hvs v hv).2.2
  -- every slice of the initial guess reads back what was written there
  obtain ⟨-, sseg, -, -⟩ := applyW_spec (List.replicate c.layout.total (lit 0 : K)) _ 0 _
    (tiled_writes c hne (c.refTimes.map c.tm.toTau) _ c.refBC.getBlock (by simp [Config.n]) htul h.bcLen).packedW (by simp)
  rw [← initialGuess_eq] at sseg
  refine ⟨?_, ?_, ?_⟩
  · have h0 := sseg _ ((mem_writes ..).mpr (.inl rfl))
    simp only [List.length_map] at h0
    have hle : c.n ≤ (initialGuess c).length := by
      have := congrArg List.length h0
      simp only [segment, List.drop_zero, List.length_take, List.length_map] at this
      exact min_eq_left_iff.mp this
    rw [decode_times, range_map_getD _ _ _ _ hle, show c.n = c.refTimes.length from rfl, h0, List.map_map]
    exact (List.map_congr_left (fun T hT => h.tmInv T hT)).trans (List.map_id _)
  · rw [decode_waypoints]
    apply foldl_setRow_id
    intro v hv
    have h0 := sseg _ ((mem_writes ..).mpr (.inr (.inl ⟨v, hv, rfl⟩)))
    rw [htul v hv] at h0
    rw [h0]
    exact h.smInv v.point (hvs v hv).2.2
  · rw [decode_bc]
    exact blocks_decode_id _ _ _ _ _ h.bcLen (fun w hw => sseg w ((mem_writes ..).mpr (.inr (.inr hw))))

theorem decode_pinned_waypoint (c : Config K) (x : List K) (i : Nat) (hn : 0 < c.n)
    (hi : spatialOptimized c.flags c.n i = false) :
    (decode c x).waypoints.getD i [] = c.refWaypoints.getD i [] :=
  EvaluateGrad.decode_pinned_wp c x i (by omega) hi

theorem decode_pinned_block (c : Config K) (x : List K) (b : DBlock) (hb : b ∉ derivBlocks c.order c.flags) :
    (decode c x).bc.getBlock b = c.refBC.getBlock b :=
  EvaluateGrad.decode_pinned_blk c x b hb

/-- non-vacuity: the identity maps satisfy `RefOK` on a well-formed reference problem -/
theorem refOK_identity (c : Config K) (d : Nat) (hn : 0 < c.n) (htm : c.tm = identityTimeMap)
    (hsm : c.sm = identitySpatialMap d) (hw : ∀ i, i ≤ c.n → (c.refWaypoints.getD i []).length = d)
    (hb : ∀ b ∈ derivBlocks c.order c.flags, (c.refBC.getBlock b).length = c.dim) : RefOK c := by
  refine ⟨hn, ?_, ?_, ?_, hb⟩
  · intro T _; rw [htm]; rfl
  · intro i _; rw [hsm]; rfl
  · intro i hi; rw [hsm]; exact hw i hi

end rt

end RoundTrip
