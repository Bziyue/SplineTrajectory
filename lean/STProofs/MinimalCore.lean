import Mathlib.Analysis.Calculus.Deriv.Pow
import Mathlib.Analysis.Calculus.Deriv.Mul
import Mathlib.Analysis.Calculus.Deriv.Add
import Mathlib.Analysis.Calculus.Deriv.Shift
import Mathlib.MeasureTheory.Integral.IntervalIntegral.FundThmCalculus
import Mathlib.Tactic.Linarith
/-!
# One polynomial piece against one competitor: `∫ (g⁽ˢ⁾)² − ∫ (p⁽ˢ⁾)² ≥ 2 [F]₀ʰ` (every `s`, every degree `< 2s`)

The analysis shared by the minimality theorems of the cubic (`s = 2`), quintic (`s = 3`) and septic (`s = 4`) spline.
`∫ (v² − u²) ≥ 2 ∫ u (v − u)` pointwise; with `u = p⁽ˢ⁾`, `v = g⁽ˢ⁾`, the right-hand integrand is the derivative of
`F = ∑_{k<s} (−1)ᵏ p⁽ˢ⁺ᵏ⁾ (g − p)⁽ˢ⁻¹⁻ᵏ⁾` (`s` integrations by parts; the remainder carries `p⁽²ˢ⁾ = 0`).
-/
open intervalIntegral Finset

namespace MinCore

/-- `∫ v² − ∫ u² ≥ 2 [F]₀ʰ` for an antiderivative `F` of `u (v − u)` -/
theorem energy_gap (u v F : ℝ → ℝ) (hu : Continuous u) (hv : Continuous v)
    (hF : ∀ τ, HasDerivAt F (u τ * (v τ - u τ)) τ) (h : ℝ) (hh : 0 ≤ h) :
    2 * (F h - F 0) ≤ (∫ τ in (0:ℝ)..h, v τ ^ 2) - ∫ τ in (0:ℝ)..h, u τ ^ 2 := by
  have hi : Continuous fun τ => u τ * (v τ - u τ) := hu.mul (hv.sub hu)
  have hv2 : Continuous fun τ => v τ ^ 2 := hv.pow 2
  have hu2 : Continuous fun τ => u τ ^ 2 := hu.pow 2
  rw [← integral_eq_sub_of_hasDerivAt (fun τ _ => hF τ) (hi.intervalIntegrable _ _), ← integral_const_mul,
    ← integral_sub (hv2.intervalIntegrable 0 h) (hu2.intervalIntegrable 0 h)]
  refine integral_mono_on hh ((continuous_const.mul hi).intervalIntegrable _ _)
    ((hv2.sub hu2).intervalIntegrable _ _) fun τ _ => ?_
  nlinarith [sq_nonneg (v τ - u τ)]

/-- coefficients of the derivative of `∑ b k * t ^ k` -/
def dc (b : ℕ → ℝ) (k : ℕ) : ℝ := (k + 1) * b (k + 1)

/-- `j`-th derivative of the polynomial with coefficient list `l` (constant term first) -/
def dv (l : List ℝ) (j : ℕ) (t : ℝ) : ℝ := ∑ k ∈ range (l.length - j), dc^[j] (fun i => l.getD i 0) k * t ^ k

theorem hasDerivAt_dv (l : List ℝ) (j : ℕ) (τ : ℝ) : HasDerivAt (dv l j) (dv l (j + 1) τ) τ := by
  have h := HasDerivAt.fun_sum (u := range (l.length - j)) fun k _ =>
    (hasDerivAt_pow k τ).const_mul (dc^[j] (fun i => l.getD i 0) k)
  refine h.congr_deriv ?_
  rw [dv, ← Nat.sub_sub]
  rcases l.length - j with _ | m
  · simp
  · rw [sum_range_succ', Nat.add_sub_cancel]
    simp [Function.iterate_succ_apply', dc, mul_left_comm, mul_assoc]

theorem dv_of_le (l : List ℝ) {j : ℕ} (h : l.length ≤ j) (t : ℝ) : dv l j t = 0 := by
  simp [dv, Nat.sub_eq_zero_of_le h]

/-- `A₀ Bₙ₋₁ − A₁ Bₙ₋₂ + … ± Aₙ₋₁ B₀` -/
def bdry (A B : ℕ → ℝ → ℝ) : ℕ → ℝ → ℝ
  | 0, _ => 0
  | n + 1, τ => A 0 τ * B n τ - bdry (fun k => A (k + 1)) B n τ

/-- `n` integrations by parts: if `Aₖ' = Aₖ₊₁`, `Bₖ' = Bₖ₊₁` and `Aₙ = 0` then `bdry A B n` is an antiderivative of `A₀ Bₙ` -/
theorem hasDerivAt_bdry (n : ℕ) (A B : ℕ → ℝ → ℝ) (hA : ∀ k t, HasDerivAt (A k) (A (k + 1) t) t)
    (hB : ∀ k, k < n → ∀ t, HasDerivAt (B k) (B (k + 1) t) t) (hz : ∀ t, A n t = 0) (τ : ℝ) :
    HasDerivAt (bdry A B n) (A 0 τ * B n τ) τ := by
  induction n generalizing A with
  | zero => rw [hz τ, zero_mul]; exact hasDerivAt_const τ (0 : ℝ)
  | succ n ih =>
    have h := ((hA 0 τ).mul (hB n n.lt_succ_self τ)).sub
      (ih (fun k => A (k + 1)) (fun k => hA (k + 1)) (fun k hk => hB k (hk.trans n.lt_succ_self)) hz)
    exact h.congr_deriv (by ring)

/-- **one segment**: `P k` the `k`-th derivative of a piece (local time) with `P (2s) = 0`, `G k` the `k`-th derivative of a
competitor (global time, the segment starts at `a`; `k ≤ s`, `G s` continuous) -/
theorem seg_ineq (s : ℕ) (P G : ℕ → ℝ → ℝ) (hP : ∀ k t, HasDerivAt (P k) (P (k + 1) t) t)
    (hG : ∀ k, k < s → ∀ t, HasDerivAt (G k) (G (k + 1) t) t) (hc : Continuous (G s)) (hz : ∀ t, P (s + s) t = 0)
    (a h : ℝ) (hh : 0 ≤ h) :
    2 * (bdry (fun k => P (s + k)) (fun k t => G k (a + t) - P k t) s h
        - bdry (fun k => P (s + k)) (fun k t => G k (a + t) - P k t) s 0)
      ≤ (∫ τ in (0:ℝ)..h, G s (a + τ) ^ 2) - ∫ τ in (0:ℝ)..h, P s τ ^ 2 :=
  energy_gap (P s) (fun τ => G s (a + τ)) _ (continuous_iff_continuousAt.2 fun t => (hP s t).continuousAt)
    (hc.comp (continuous_const.add continuous_id))
    (fun τ => hasDerivAt_bdry s _ _ (fun k t => hP (s + k) t)
      (fun k hk t => (by simpa using (hG k hk (a + t)).comp_const_add a t : HasDerivAt (fun t => G k (a + t)) _ t).sub (hP k t))
      hz τ) h hh

end MinCore
