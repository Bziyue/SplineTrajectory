import STProofs.CubicKKT
import STProofs.ListSums
/-!
# `propagateGrad` of the cubic spline is the exact adjoint of the construction map — every N

The construction map is run on dual numbers (`Dual K`): the dual part of every coefficient is its
directional derivative along the tangent carried by the inputs.  `cubic_adjoint` states: for every
upstream gradient `(gs, gT)`, every tangent `(dP, dh, dv₀, dvₙ)`,

  Σ gs·(coefficients).du + Σ gT·dh  =  ⟨propagate(gs) + gT, (dP, dh, dv₀, dvₙ)⟩ .

Same route as for the quintic / septic (`HermiteAdjoint`): per piece, the upstream gradient is pulled back through the
closure onto the tangents of waypoints, duration and the two knot values `M` (`seg_identity`, summed by `seg_sum`); the
tangent of `M` solves the differentiated system (`solves_projectR`); the matrix is symmetric, so pairing that tangent with
the accumulated knot gradients is pairing the adjoint variables `λ = A⁻¹ lraw` (`thomasRhs_iff`: what the code solves for)
with the differentiated right-hand side (`sym_pair`), which is collected segment by segment (`rho_interior`).
-/
open ST ST.Cubic

variable {K : Type} [Field K]

/-- what the segment `s` contributes to the differentiated right-hand side `d' − A'·M`: `leftRho` to the row of its left
knot, `rightRho` to the row of its right knot -/
def leftRho (s : Seg (Dual K)) (m0 m1 : K) : K := 6 * s.pd.du - s.h.du * (2 * m0 + m1)
def rightRho (s : Seg (Dual K)) (m0 m1 : K) : K := -(6 * s.pd.du) - s.h.du * (m0 + 2 * m1)

def segRho : List (Seg (Dual K)) → List K → List K → K
  | s :: ss, m0 :: m1 :: ms, l0 :: l1 :: ls =>
      l0 * leftRho s m0 m1 + l1 * rightRho s m0 m1 + segRho ss (m1 :: ms) (l1 :: ls)
  | _, _, _ => 0

/-- the row-wise right-hand side `d' − A'·M` paired with `ls`, collected by segments -/
theorem rho_interior (vn : Dual K) (prev : Seg (Dual K)) (rest : List (Seg (Dual K))) (mprev : K) (ms ls : List K)
    (hm : ms.length = rest.length + 1) (hl : ls.length = rest.length + 1) :
    dot ls (rhoList mprev (interiorRows vn prev rest) ms)
      = ls.headD 0 * rightRho prev mprev (ms.headD 0) + segRho rest ms ls + 6 * ls.getLastD 0 * vn.du := by
  induction rest generalizing prev mprev ms ls with
  | nil =>
    match ms, ls, hm, hl with
    | [m], [l], _, _ =>
      simp only [interiorRows, rhoList, dot_cons, dot_nil_l, segRho, List.headD_cons, List.headD_nil, List.getLastD_cons,
        List.getLastD_nil]
      dual_proj
      simp only [rightRho]
      ring
  | cons s rest ih =>
    match ms, ls, hm, hl with
    | m :: m1 :: ms, l :: l1 :: ls, hm, hl =>
      have := ih s m (m1 :: ms) (l1 :: ls) (by simpa using hm) (by simpa using hl)
      simp only [List.headD_cons, List.getLastD_cons] at this
      simp only [interiorRows, rhoList, dot_cons, this, segRho, List.headD_cons, List.getLastD_cons]
      dual_proj
      simp only [leftRho, rightRho]
      ring

/-! ## per-segment identity: pull-back of one piece, both loops of propagateGrad -/
def Seg.re (s : Seg (Dual K)) : Seg K := ⟨s.h.re, s.p0.re, s.dp.re, s.pd.re⟩

def gdot (g : C4 K) (pc : C4 (Dual K)) : K :=
  g.c0 * pc.c0.du + g.c1 * pc.c1.du + g.c2 * pc.c2.du + g.c3 * pc.c3.du

def gdotC : List (C4 K) → List (C4 (Dual K)) → K
  | g :: gs, pc :: pcs => gdot g pc + gdotC gs pcs
  | _, _ => 0

theorem seg_identity [CharZero K] (h p0 p1 m0 m1 : Dual K) (g : C4 K) (l0 l1 : K) (hh : h.re ≠ 0) :
    let s : Seg (Dual K) := ⟨h, p0, p1 - p0, (p1 - p0) * (lit 1 / h)⟩
    let pc : C4 (Dual K) :=
      ⟨s.p0, s.pd - (s.h / lit 6) * (lit 2 * m0 + m1), m0 * (lit 1 / lit 2),
        (m1 - m0) * ((lit 1 / s.h) / lit 6)⟩
    let c := segContribs [Seg.re s] [g] [m0.re, m1.re] [l0, l1]
    gdot g pc - ((lamRawSeg (Seg.re s) g).1 * m0.du + (lamRawSeg (Seg.re s) g).2 * m1.du)
      + (l0 * leftRho s m0.re m1.re + l1 * rightRho s m0.re m1.re)
    = (c.map (·.1.1)).headD 0 * p0.du + (c.map (·.1.2)).headD 0 * p1.du + (c.map (·.2)).headD 0 * h.du := by
  intro s pc c
  simp only [s, pc, c, gdot, lamRawSeg, segContribs, leftRho, rightRho, Seg.re, List.map_cons, List.map_nil,
    List.headD_cons]
  dual_proj
  simp only [lit_eq]
  ring

theorem segContribs_cons (s : Seg K) (ss : List (Seg K)) (g : C4 K) (gs : List (C4 K)) (m0 m1 : K) (ms : List K)
    (l0 l1 : K) (ls : List K) :
    segContribs (s :: ss) (g :: gs) (m0 :: m1 :: ms) (l0 :: l1 :: ls)
      = segContribs [s] [g] [m0, m1] [l0, l1] ++ segContribs ss gs (m1 :: ms) (l1 :: ls) := rfl

theorem seg_sum [CharZero K] (hs Ps Ms : List (Dual K)) (ls : List K) (gs : List (C4 K))
    (hP : Ps.length = hs.length + 1) (hM : Ms.length = hs.length + 1)
    (hl : ls.length = hs.length + 1) (hg : gs.length = hs.length)
    (hne : ∀ h ∈ hs, h.re ≠ 0) :
    let segs := mkSegs hs Ps
    let cs := segContribs (segs.map Seg.re) gs (Ms.map Dual.re) ls
    gdotC gs (closure segs Ms) - segPair (zipLam (segs.map Seg.re) gs) (Ms.map Dual.du)
        + segRho segs (Ms.map Dual.re) ls
      = segPair (cs.map (·.1)) (Ps.map Dual.du) + dot (cs.map (·.2)) (hs.map Dual.du) := by
  induction hs generalizing Ps Ms ls gs with
  | nil =>
    match gs, hg with
    | [], _ => simp [mkSegs, gdotC, zipLam, segPair, segRho, segContribs]
  | cons h hs ih =>
    match Ps, Ms, ls, gs, hP, hM, hl, hg with
    | p0 :: p1 :: Ps, m0 :: m1 :: Ms, l0 :: l1 :: ls, g :: gs, hP, hM, hl, hg =>
      have ih' := ih (p1 :: Ps) (m1 :: Ms) (l1 :: ls) gs (Nat.succ.inj hP) (Nat.succ.inj hM)
        (Nat.succ.inj hl) (Nat.succ.inj hg) (fun x hx => hne x (List.mem_cons_of_mem _ hx))
      have sid := seg_identity h p0 p1 m0 m1 g l0 l1 (hne h (List.mem_cons_self ..))
      -- the contribution of this segment stays a variable `x`
      obtain ⟨x, hx⟩ : ∃ x, segContribs [Seg.re ⟨h, p0, p1 - p0, (p1 - p0) * (lit 1 / h)⟩] [g] [m0.re, m1.re] [l0, l1] = [x] :=
        ⟨_, rfl⟩
      simp only [mkSegs, closure, gdotC, List.map_cons, zipLam, segPair, segRho, segContribs_cons, hx, List.cons_append,
        List.nil_append, List.map_nil, List.headD_cons, dot_cons] at ih' sid ⊢
      linear_combination ih' + sid

theorem sym_interior (vn : Dual K) (prev : Seg (Dual K)) (rest : List (Seg (Dual K))) :
    SymAux prev.h.re ((interiorRows vn prev rest).map reRow) := by
  induction rest generalizing prev with
  | nil => simp [interiorRows, SymAux, reRow]
  | cons s rest ih => exact ⟨by simp [reRow], by simpa [interiorRows, reRow] using ih s⟩

/-- **Adjoint identity for the cubic, every N ≥ 1** (core: the two linear systems enter as hypotheses). -/
theorem cubic_adjoint_core [CharZero K] (hs Ps Ms : List (Dual K)) (v0 vn : Dual K)
    (ls : List K) (gs : List (C4 K)) (gT : List K) (hne0 : hs ≠ [])
    (hP : Ps.length = hs.length + 1) (hM : Ms.length = hs.length + 1)
    (hl : ls.length = hs.length + 1) (hg : gs.length = hs.length)
    (hgT : gT.length = hs.length)
    (hne : ∀ h ∈ hs, h.re ≠ 0)
    (hMs : Solves 0 (rows v0 vn (mkSegs hs Ps)) Ms)
    (hLs : SolvesR 0 ((rows v0 vn (mkSegs hs Ps)).map reRow) ls
              (oadd (zipLam ((mkSegs hs Ps).map Seg.re) gs))) :
    let segs := mkSegs hs Ps
    let cs := segContribs (segs.map Seg.re) gs (Ms.map Dual.re) ls
    gdotC gs (closure segs Ms) + dot gT (hs.map Dual.du)
      = dot (oadd (cs.map (·.1))) (Ps.map Dual.du)
        + dot (zipAdd gT (cs.map (·.2))) (hs.map Dual.du)
        + (0 - 6 * ls.headD 0) * v0.du + (6 * ls.getLastD 0) * vn.du := by
  intro segs cs
  have hsne : segs ≠ [] := mkSegs_ne_nil hs Ps hne0 hP
  rw [rows_eq_interior v0 vn segs hsne] at hMs hLs
  have hA := seg_sum hs Ps Ms ls gs hP hM hl hg hne
  have hB := dot_oadd (zipLam (segs.map Seg.re) gs) (Ms.map Dual.du) (by simp [segs, hP, hg, hM])
  have hC := sym_pair 0 0 0 _ ls (Ms.map Dual.du) _ _ (sym_interior vn (seg0 v0) segs) hLs (solves_projectR 0 _ Ms hMs)
  have hD := rho_interior vn (seg0 v0) segs 0 (Ms.map Dual.re) ls (by simp [segs, hP, hM]) (by simp [segs, hP, hl])
  have hE := dot_oadd (cs.map (·.1)) (Ps.map Dual.du) (by simp [cs, segs, hP, hg, hM, hl])
  have hF := dot_zipAdd gT (cs.map (·.2)) (hs.map Dual.du) (by simp [cs, segs, hgT, hP, hg, hM, hl])
  simp only [Dual.zero_re, mul_zero, sub_self] at hC
  simp only [rightRho, Dual.zero_du, zero_mul, sub_zero] at hD
  rw [hE, hF]
  simp only [segs, cs] at hA hB hC hD ⊢
  linear_combination hA - hB - hC + hD

/-! ## discharging the two linear systems: the published theorem -/

theorem mkSegs_re (hs Ps : List (Dual K)) :
    (mkSegs hs Ps).map Seg.re = mkSegs (hs.map Dual.re) (Ps.map Dual.re) := by
  induction hs generalizing Ps with
  | nil => cases Ps <;> simp [mkSegs]
  | cons h hs ih =>
    match Ps with
    | [] | [_] => simp [mkSegs]
    | p0 :: p1 :: Ps =>
      simp only [mkSegs, List.map_cons, ih (p1 :: Ps)]
      congr 1

theorem interiorRows_re (vn : Dual K) (prev : Seg (Dual K)) (rest : List (Seg (Dual K))) :
    (interiorRows vn prev rest).map reRow = interiorRows vn.re (Seg.re prev) (rest.map Seg.re) := by
  induction rest generalizing prev with
  | nil =>
    simp only [interiorRows, List.map_cons, List.map_nil, reRow, Seg.re]
    dual_proj
    simp only [lit_eq]
  | cons s rest ih =>
    simp only [interiorRows, List.map_cons, reRow, ih s]
    simp only [Seg.re]
    dual_proj
    simp only [lit_eq]

theorem rows_re (v0 vn : Dual K) (segs : List (Seg (Dual K))) :
    (rows v0 vn segs).map reRow = rows v0.re vn.re (segs.map Seg.re) := by
  cases segs with
  | nil => rfl
  | cons s rest =>
    rw [rows_eq_interior v0 vn _ (by simp), interiorRows_re]
    exact (rows_eq_interior _ _ _ (by simp)).symm

theorem fwd_re (c d : Dual K) (rs : List (Row (Dual K))) :
    (fwd (some (c, d)) rs).map (fun p => (p.1.re, p.2.re)) = fwd (some (c.re, d.re)) (rs.map reRow) := by
  induction rs generalizing c d with
  | nil => rfl
  | cons r rs ih => simp [fwd, reRow, ih]

theorem back_re (l : List (Dual K × Dual K)) :
    (back l).map Dual.re = back (l.map (fun p => (p.1.re, p.2.re))) := by
  induction l with
  | nil => simp [back]
  | cons p rest ih =>
    obtain ⟨c, d⟩ := p
    rw [back_cons, List.map_cons, List.map_cons, back_cons, ← ih, headD_map_re]
    simp only [Dual.sub_re, Dual.mul_re]

theorem thomas_re (rs : List (Row (Dual K))) : (thomas rs).map Dual.re = thomas (rs.map reRow) := by
  simp only [thomas, fwd_none, back_re, fwd_re, Dual.zero_re]

theorem knotM_re (v0 vn : Dual K) (segs : List (Seg (Dual K))) :
    (knotM v0 vn segs).map Dual.re = knotM v0.re vn.re (segs.map Seg.re) := by
  simp only [knotM, thomas_re, rows_re]

theorem pivOK_dual (c d : Dual K) (rs : List (Row (Dual K))) (h : PivOK (some (c.re, d.re)) (rs.map reRow)) :
    PivOK (some (c, d)) rs := by
  induction rs generalizing c d with
  | nil => trivial
  | cons r rs ih =>
    simp only [List.map_cons, PivOK] at h ⊢
    exact ⟨by simpa [DivRing.U, reRow] using h.1, ih _ _ (by simpa [reRow] using h.2)⟩

section ordered
variable [LinearOrder K] [IsStrictOrderedRing K]

/-- over the dual numbers the sweep solves the cubic system as soon as the real parts of the durations are positive -/
theorem knotM_solves_dual (v0 vn : Dual K) (segs : List (Seg (Dual K))) (hpos : AllPos (segs.map Seg.re)) :
    Solves 0 (rows v0 vn segs) (knotM v0 vn segs) := by
  have hp := (pivOK_none _).mp (pivok_cubic v0.re vn.re _ hpos)
  rw [← rows_re] at hp
  exact thomas_correct _ ((pivOK_none _).mpr (pivOK_dual 0 0 _ hp)) 0 (headOK_rows v0 vn _)

/-- **C05 (cubic): `propagateGrad` is the exact transpose-Jacobian product of the construction map, for every
N ≥ 1, every positive duration vector, every waypoint / boundary data, every upstream gradient and every tangent.**
Left: upstream gradient paired with the dual parts (= directional derivatives) of the coefficients the
construction map produces on dual inputs, plus the explicit duration partials.  Right: the model's
`propagate` output (computed from the real parts only) paired with the tangent. -/
theorem cubic_adjoint (hs Ps : List (Dual K)) (v0 vn : Dual K) (gs : List (C4 K)) (gT : List K)
    (hpos : ∀ h ∈ hs, 0 < h.re) (hne : hs ≠ [])
    (hP : Ps.length = hs.length + 1) (hg : gs.length = hs.length) (hgT : gT.length = hs.length) :
    let segsR := mkSegs (hs.map Dual.re) (Ps.map Dual.re)
    let out := propagate v0.re vn.re segsR (knotM v0.re vn.re segsR) gs
    gdotC gs (build hs Ps v0 vn) + dot gT (hs.map Dual.du)
      = dot out.points (Ps.map Dual.du) + dot (zipAdd gT out.times) (hs.map Dual.du)
        + out.v0 * v0.du + out.vn * vn.du := by
  intro segsR out
  have hsegsR : (mkSegs hs Ps).map Seg.re = segsR := mkSegs_re hs Ps
  have hsne : mkSegs hs Ps ≠ [] := mkSegs_ne_nil hs Ps hne hP
  have hsneR : segsR ≠ [] := mkSegs_ne_nil _ _ (by simpa using hne) (by simpa using hP)
  have hposR : AllPos segsR := allPos_mkSegs _ _ ((posList_iff _).mpr (by simpa using hpos))
  have hMs := knotM_solves_dual v0 vn (mkSegs hs Ps) (hsegsR ▸ hposR)
  -- the adjoint variables `λ = A⁻¹ lraw`, named through an equation so that the `simp`s below do not enter the solve
  obtain ⟨ls, hls⟩ : ∃ ls, ls = thomas (withRhs (rows v0.re vn.re segsR) (oadd (zipLam segsR gs))) := ⟨_, rfl⟩
  have hLs := (thomasRhs_iff _ _ ls (pivok_cubic v0.re vn.re segsR hposR) (headOK_rows _ _ _) (by simp [segsR, hsneR, hP, hg])).mpr hls
  have core := cubic_adjoint_core hs Ps (knotM v0 vn (mkSegs hs Ps)) v0 vn ls gs gT hne hP (by simp [hsne, hP])
    (by simp [hls, segsR, hsneR, hP, hg]) hg hgT (fun h hh => (hpos h hh).ne') hMs (by rw [rows_re, hsegsR]; exact hLs)
  simp only [knotM_re, hsegsR] at core
  simp only [out, propagate, build, ← hls, lit_eq]
  push_cast
  linear_combination core

end ordered
