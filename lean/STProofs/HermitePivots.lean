import STProofs.HermiteKit
import Mathlib.Tactic.Linarith
import Mathlib.Tactic.Positivity
import Mathlib.LinearAlgebra.Matrix.ToLinearEquiv
import Mathlib.LinearAlgebra.Matrix.Determinant.Basic
import Mathlib.Tactic.FinCases
/-!
# The pivots of the quintic / septic block elimination never vanish (positive durations, every N)

The block rows of the code are, up to a constant sign matrix `Jm` (`diag(−1, 1)` / `antidiag(1, −1, 1)`), the gradient
of the jerk / snap energy with respect to the knot derivatives.  So the Schur complements of the elimination are
Hessians of partially minimised energies, bounded below by the energy of the next segment alone, which is positive
definite.

Per order (the constants of the code):
* `energyForm h w v` : the energy of one piece of duration `h` with zero end positions, derivatives `w` at its left
  end and `v` at its right end, written with the code's blocks (`Jm·D_R`, `Jm·U`, `Jm·L`, `Jm·D_L`);
* `energyForm_sos` : it is an explicit sum of squares with positive weights (shifted Legendre components of the
  jerk / snap);
* `energyForm_posdef` : at `v = 0` it is `wᵀ Jm D_R(h) w`, what the segment right of a knot contributes to the diagonal
  block, and the squares show it positive definite;
* `exists_ker` : a block with vanishing determinant has a kernel vector.

For both at once (`HS`): the invariant `Inv` carried by the forward sweep, `wᵀ Jm S w ≥ wᵀ Jm D_R(h) w` for the
current pivot `S` (`inv_first`, `inv_step`), and hence `detOK_of_pos` : no pivot determinant vanishes — the hypothesis
of `adjoint`, and through `detOK_pivOK2` the pivot hypotheses of `KKT_partial` and of uniqueness, discharged for all positive
durations.
-/
open ST

theorem HS.eq_zero_of_sum_nonpos {K : Type} [Field K] [LinearOrder K] [IsStrictOrderedRing K] {a b c d : K}
    (ha : 0 ≤ a) (hb : 0 ≤ b) (hc : 0 ≤ c) (hd : 0 ≤ d) (h : a + b + c + d ≤ 0) : a = 0 ∧ b = 0 ∧ c = 0 := by
  refine ⟨?_, ?_, ?_⟩ <;> linarith

namespace QuinticPiv
open ST.Quintic QuinticAdj
variable {K : Type} [Field K] [LinearOrder K] [IsStrictOrderedRing K]

def Jm : M2 K := ⟨-1, 0, 0, 1⟩
/-- the part of `blockD` contributed by the segment left of the knot / right of the knot -/
def DLm (h : K) : M2 K := ⟨(-192) * (1/h)^3, 36 * (1/h)^2, (-36) * (1/h)^2, 9 * (1/h)⟩
def DRm (h : K) : M2 K := ⟨(-192) * (1/h)^3, (-36) * (1/h)^2, 36 * (1/h)^2, 9 * (1/h)⟩

theorem blockD_split (hL hR : K) : blockD (mkTP hL) (mkTP hR) = DLm hL + DRm hR := by
  simp only [blockD, mkTP_inv, DLm, DRm, M2.add_def, lit_eq]
  push_cast
  ext <;> (simp only []; ring)

/-- energy of one piece (zero end positions) as a quadratic form in the end derivatives, in the code's blocks -/
def energyForm (h : K) (w v : V2 K) : K :=
  ip2 w ((Jm * DRm h) • w) + ip2 w ((Jm * blockU (mkTP h)) • v) + ip2 v ((Jm * blockL (mkTP h)) • w)
    + ip2 v ((Jm * DLm h) • v)

theorem energyForm_sos (h : K) (hh : h ≠ 0) (w v : V2 K) :
    energyForm h w v
      = h * (((v.y - w.y) / h) ^ 2
          + h ^ 2 / 12 * (6 * (h * v.y + h * w.y - 2 * v.x + 2 * w.x) / h ^ 3) ^ 2
          + h ^ 4 / 180 * (30 * (h * v.y - h * w.y - 6 * v.x - 6 * w.x) / h ^ 4) ^ 2) := by
  simp only [energyForm, mul_smul, ip2, Jm, DRm, DLm, blockU, blockL, mkTP_inv, V2.smul_def, lit_eq,
    zero_mul, zero_add, add_zero, one_mul, neg_mul]
  push_cast
  field_simp
  ring

theorem energyForm_nonneg (h : K) (hh : 0 < h) (w v : V2 K) : 0 ≤ energyForm h w v := by
  rw [energyForm_sos h hh.ne']
  positivity

/-- `energyForm h w 0 = wᵀ Jm D_R(h) w` is positive definite: the first two squares give `w.y = 0`, then `w.x = 0` -/
theorem energyForm_posdef (h : K) (hh : 0 < h) (w : V2 K) (hw : energyForm h w 0 ≤ 0) : w = 0 := by
  rw [energyForm_sos h hh.ne'] at hw
  obtain ⟨h1, h2, -⟩ := HS.eq_zero_of_sum_nonpos (by positivity) (by positivity) (by positivity) le_rfl
    ((add_zero _).trans_le (nonpos_of_mul_nonpos_right hw hh))
  have hy : w.y = 0 := by simpa [hh.ne', V2.zero_def] using h1
  have hx : w.x = 0 := by simpa [hh.ne', V2.zero_def, hy] using h2
  exact V2.ext hx hy

/-- a singular 2×2 block has a non-zero kernel vector: it kills `(−a01, a00)` and `(−a11, a10)`, and if both vanish it
is zero -/
theorem exists_ker (S : M2 K) (h : M2.det S = 0) : ∃ w : V2 K, w ≠ 0 ∧ S • w = 0 := by
  simp only [M2.det] at h
  by_cases h0 : (⟨-S.a01, S.a00⟩ : V2 K) = 0
  · by_cases h1 : (⟨-S.a11, S.a10⟩ : V2 K) = 0
    · simp only [V2.zero_def, V2.mk.injEq, neg_eq_zero] at h0 h1
      refine ⟨⟨1, 0⟩, by simp [V2.zero_def], ?_⟩
      ext <;> simp [V2.smul_def, V2.zero_def, h0, h1]
    · refine ⟨_, h1, ?_⟩
      ext <;> simp only [V2.smul_def, V2.zero_def]
      · linear_combination -h
      · ring
  · refine ⟨_, h0, ?_⟩
    ext <;> simp only [V2.smul_def, V2.zero_def]
    · ring
    · linear_combination h

/-- the current pivot dominates the energy Hessian of the next segment alone -/
def Inv (S : M2 K) (h : K) : Prop := ∀ w : V2 K, ip2 w ((Jm * DRm h) • w) ≤ ip2 w ((Jm * S) • w)

end QuinticPiv

namespace SepticPiv
open ST.Septic SepticAdj
variable {K : Type} [Field K] [LinearOrder K] [IsStrictOrderedRing K]

def Jm : M3 K := ⟨0, 0, 1, 0, -1, 0, 1, 0, 0⟩
/-- the part of `blockD` contributed by the segment left of the knot / right of the knot -/
def DLm (h : K) : M3 K :=
  ⟨480 * (1/h)^3, (-120) * (1/h)^2, 16 * (1/h),
   5400 * (1/h)^4, (-1200) * (1/h)^3, 120 * (1/h)^2,
   25920 * (1/h)^5, (-5400) * (1/h)^4, 480 * (1/h)^3⟩
def DRm (h : K) : M3 K :=
  ⟨480 * (1/h)^3, 120 * (1/h)^2, 16 * (1/h),
   (-5400) * (1/h)^4, (-1200) * (1/h)^3, (-120) * (1/h)^2,
   25920 * (1/h)^5, 5400 * (1/h)^4, 480 * (1/h)^3⟩

theorem blockD_split (hL hR : K) : blockD (mkTP hL) (mkTP hR) = DLm hL + DRm hR := by
  simp only [blockD, mkTP_inv, DLm, DRm, M3.add_def, lit_eq]
  push_cast
  ext <;> (simp only []; ring)

/-- energy of one piece (zero end positions) as a quadratic form in the end derivatives, in the code's blocks -/
def energyForm (h : K) (w v : V3 K) : K :=
  ip3 w ((Jm * DRm h) • w) + ip3 w ((Jm * blockU (mkTP h)) • v) + ip3 v ((Jm * blockL (mkTP h)) • w)
    + ip3 v ((Jm * DLm h) • v)

theorem energyForm_sos (h : K) (hh : h ≠ 0) (w v : V3 K) :
    energyForm h w v
      = h * (((v.z - w.z) / h) ^ 2
          + (3 * (h * v.z + h * w.z - 2 * v.y + 2 * w.y) / h ^ 2) ^ 2 / 3
          + (5 * (h ^ 2 * v.z - h ^ 2 * w.z - 6 * h * v.y - 6 * h * w.y + 12 * v.x - 12 * w.x) / h ^ 3) ^ 2 / 5
          + (7 * (h ^ 2 * v.z + h ^ 2 * w.z - 12 * h * v.y + 12 * h * w.y + 60 * v.x + 60 * w.x) / h ^ 3) ^ 2 / 7) := by
  -- apply `Jm` to vectors (no block products) and clear its zeros and ones first: clearing denominators is paid by
  -- the size of the term
  simp only [energyForm, mul_smul, ip3, Jm, DRm, DLm, blockU, blockL, mkTP_inv, V3.smul_def, lit_eq,
    zero_mul, zero_add, add_zero, one_mul, neg_mul]
  push_cast
  field_simp
  ring

theorem energyForm_nonneg (h : K) (hh : 0 < h) (w v : V3 K) : 0 ≤ energyForm h w v := by
  rw [energyForm_sos h hh.ne']
  positivity

/-- `energyForm h w 0 = wᵀ Jm D_R(h) w` is positive definite: the first three squares give `w.z = 0`, then `w.y = 0`,
then `w.x = 0` -/
theorem energyForm_posdef (h : K) (hh : 0 < h) (w : V3 K) (hw : energyForm h w 0 ≤ 0) : w = 0 := by
  rw [energyForm_sos h hh.ne'] at hw
  obtain ⟨h1, h2, h3⟩ := HS.eq_zero_of_sum_nonpos (by positivity) (by positivity) (by positivity) (by positivity)
    (nonpos_of_mul_nonpos_right hw hh)
  have hz : w.z = 0 := by simpa [hh.ne', V3.zero_def] using h1
  have hy : w.y = 0 := by simpa [hh.ne', V3.zero_def, hz] using h2
  have hx : w.x = 0 := by simpa [hh.ne', V3.zero_def, hz, hy] using h3
  exact V3.ext hx hy hz

/-- a singular 3×3 block has a non-zero kernel vector (Mathlib: `Matrix.exists_mulVec_eq_zero_iff`) -/
theorem exists_ker (S : M3 K) (h : M3.det S = 0) : ∃ w : V3 K, w ≠ 0 ∧ S • w = 0 := by
  obtain ⟨v, hv, hAv⟩ := Matrix.exists_mulVec_eq_zero_iff.mpr
    (show (!![S.a00, S.a01, S.a02; S.a10, S.a11, S.a12; S.a20, S.a21, S.a22] : Matrix (Fin 3) (Fin 3) K).det = 0 by
      simp only [M3.det] at h; simp [Matrix.det_fin_three]; linear_combination h)
  refine ⟨⟨v 0, v 1, v 2⟩, fun e => hv ?_, ?_⟩
  · funext i; fin_cases i
    exacts [congrArg V3.x e, congrArg V3.y e, congrArg V3.z e]
  · have r := fun i => congrFun hAv i
    simp only [Matrix.mulVec, dotProduct, Fin.sum_univ_three, Matrix.of_apply, Matrix.cons_val', Matrix.cons_val_zero,
      Matrix.cons_val_one, Pi.zero_apply] at r
    ext
    exacts [r 0, r 1, r 2]

/-- the current pivot dominates the energy Hessian of the next segment alone -/
def Inv (S : M3 K) (h : K) : Prop := ∀ w : V3 K, ip3 w ((Jm * DRm h) • w) ≤ ip3 w ((Jm * S) • w)

end SepticPiv

namespace HS
section
variable {o : Deg} {K : Type} [Field K]

/-! the constants of the two orders under one index; `energyForm` and `Inv` unfold to the per-order ones -/
variable (o)
def Jm : R o K := match o with | .quintic => QuinticPiv.Jm | .septic => SepticPiv.Jm
def DLm : K → R o K := match o with | .quintic => QuinticPiv.DLm | .septic => SepticPiv.DLm
def DRm : K → R o K := match o with | .quintic => QuinticPiv.DRm | .septic => SepticPiv.DRm
variable {o}
def energyForm (h : K) (w v : V o K) : K :=
  ip w ((Jm o * DRm o h) • w) + ip w ((Jm o * blockU (mkTP o h)) • v) + ip v ((Jm o * blockL (mkTP o h)) • w)
    + ip v ((Jm o * DLm o h) • v)

theorem energyForm_zero_left (h : K) (v : V o K) : energyForm h 0 v = ip v ((Jm o * DLm o h) • v) := by
  simp [energyForm, pairing.zero_left, pairing.zero_right]
theorem energyForm_zero_right (h : K) (w : V o K) : energyForm h w 0 = ip w ((Jm o * DRm o h) • w) := by
  simp [energyForm, pairing.zero_left, pairing.zero_right]
end

variable {o : Deg} {K : Type} [Field K] [LinearOrder K] [IsStrictOrderedRing K]

def Inv (S : R o K) (h : K) : Prop := ∀ w : V o K, ip w ((Jm o * DRm o h) • w) ≤ ip w ((Jm o * S) • w)

theorem blockD_split (hL hR : K) : blockD (mkTP o hL) (mkTP o hR) = DLm o hL + DRm o hR := by
  cases o; exacts [QuinticPiv.blockD_split hL hR, SepticPiv.blockD_split hL hR]
theorem energyForm_nonneg (h : K) (hh : 0 < h) (w v : V o K) : 0 ≤ energyForm h w v := by
  cases o; exacts [QuinticPiv.energyForm_nonneg h hh w v, SepticPiv.energyForm_nonneg h hh w v]
theorem energyForm_posdef (h : K) (hh : 0 < h) (w : V o K) (hw : energyForm h w 0 ≤ 0) : w = 0 := by
  cases o; exacts [QuinticPiv.energyForm_posdef h hh w hw, SepticPiv.energyForm_posdef h hh w hw]
theorem exists_ker (S : R o K) (h : det S = 0) : ∃ w : V o K, w ≠ 0 ∧ S • w = 0 := by
  cases o; exacts [QuinticPiv.exists_ker S h, SepticPiv.exists_ker S h]

theorem det_ne_of_inv (S : R o K) (h : K) (hh : 0 < h) (hI : Inv S h) : det S ≠ 0 := by
  intro hd
  obtain ⟨w, hw, hSw⟩ := exists_ker S hd
  have := hI w
  rw [mul_smul (Jm o) S, hSw, smul_zero, pairing.zero_right, ← energyForm_zero_right] at this
  exact hw (energyForm_posdef h hh w this)

theorem inv_first (hL hR : K) (hhL : 0 < hL) : Inv (blockD (mkTP o hL) (mkTP o hR)) hR := by
  intro w
  rw [blockD_split, mul_add, add_smul, pairing.add_right, ← energyForm_zero_left]
  exact le_add_of_nonneg_left (energyForm_nonneg hL hhL 0 w)

/-- one elimination step: minimising the energy of the segment left of the knot over the derivatives `w` at its left
end (`S • w = −U • v`) leaves a non-negative rest, so the new pivot dominates what the segment right of it contributes -/
theorem inv_step (S : R o K) (hL hR : K) (hhL : 0 < hL) (hI : Inv S hL) :
    Inv (blockD (mkTP o hL) (mkTP o hR) - blockL (mkTP o hL) * (inv S * blockU (mkTP o hL))) hR := by
  have hdet := det_ne_of_inv S hL hhL hI
  intro v
  set w : V o K := -((inv S * blockU (mkTP o hL)) • v) with hw
  have hSw : S • w = -(blockU (mkTP o hL) • v) := by
    rw [hw, smul_neg, ← mul_smul, ← mul_assoc, mul_inv S hdet, one_mul]
  have hS'v : (blockD (mkTP o hL) (mkTP o hR) - blockL (mkTP o hL) * (inv S * blockU (mkTP o hL))) • v
      = DLm o hL • v + DRm o hR • v + blockL (mkTP o hL) • w := by
    rw [blockD_split, sub_smul, add_smul, mul_smul (blockL (mkTP o hL)), hw, smul_neg]
    abel
  rw [mul_smul (Jm o) (_ - _), hS'v, smul_add, smul_add, pairing.add_right, pairing.add_right,
    ← mul_smul, ← mul_smul, ← mul_smul]
  have hE := energyForm_nonneg hL hhL w v
  have hIw := hI w
  have hIw' : ip w ((Jm o * S) • w) = -ip w ((Jm o * blockU (mkTP o hL)) • v) := by
    rw [mul_smul (Jm o) S, hSw, smul_neg, pairing.neg_right, ← mul_smul]
  simp only [energyForm] at hE
  linarith

theorem detOK_aux (bL bR : V o K) (first : Bool) (sL : Seg o K) (rest : List (Seg o K)) (hL : K) (hhL : 0 < hL)
    (htp : sL.tp = mkTP o hL) (hrest : ∀ s ∈ rest, ∃ h, 0 < h ∧ s.tp = mkTP o h) (S l : R o K) (b : V o K)
    (hI : Inv S hL) : DetOK (some ⟨inv S, blockU (mkTP o hL), l, b⟩) (rowsAux bR first bL sL rest) := by
  induction rest generalizing first sL hL S l b with
  | nil => rw [rowsAux_nil]; exact detOK_nil _
  | cons sR rest ih =>
    obtain ⟨hR, hhR, htpR⟩ := hrest sR (by simp)
    obtain ⟨b', hb⟩ := rowsAux_head bR first bL sL sR rest
    have hI' := inv_step S hL hR hhL hI
    rw [hb, detOK_some]
    simp only [htp, htpR]
    exact ⟨det_ne_of_inv _ hR hhR hI', ih false sR hR hhR htpR (fun s hs => hrest s (by simp [hs])) _ _ _ hI'⟩

/-- pivot non-singularity for both orders in one statement (`QuinticPiv.detOK_of_pos`, `SepticPiv.detOK_of_pos`) -/
theorem detOK_of_pos (hs Ps : List K) (bL bR : V o K) (hpos : ∀ h ∈ hs, 0 < h) :
    DetOK none (rows bL bR (mkSegs o hs Ps)) := by
  have hseg : ∀ s ∈ mkSegs o hs Ps, ∃ h, 0 < h ∧ s.tp = mkTP o h := fun s hs' =>
    let ⟨h, hh, e⟩ := mkSegs_tp o hs Ps s hs'; ⟨h, hpos h hh, e⟩
  generalize mkSegs o hs Ps = segs at hseg ⊢
  rcases segs with _ | ⟨s0, _ | ⟨s1, rest⟩⟩
  · rw [rows_nil]; exact detOK_nil _
  · rw [rows_cons, rowsAux_nil]; exact detOK_nil _
  · obtain ⟨h0, hh0, htp0⟩ := hseg s0 (by simp)
    obtain ⟨h1, hh1, htp1⟩ := hseg s1 (by simp)
    obtain ⟨b, hb⟩ := rowsAux_head bR true bL s0 s1 rest
    have hI := inv_first (o := o) h0 h1 hh0
    rw [rows_cons, hb, detOK_none]
    simp only [htp0, htp1]
    exact ⟨det_ne_of_inv _ h1 hh1 hI, detOK_aux bL bR false s1 rest h1 hh1 htp1 (fun s hs => hseg s (by simp [hs])) _ _ _ hI⟩

end HS

namespace QuinticPiv
open ST.Quintic QuinticAdj
variable {K : Type} [Field K] [LinearOrder K] [IsStrictOrderedRing K]

theorem inv_step (S : M2 K) (hL hR : K) (hhL : 0 < hL) (hI : Inv S hL) :
    Inv (blockD (mkTP hL) (mkTP hR) - blockL (mkTP hL) * (M2.inv S * blockU (mkTP hL))) hR :=
  HS.inv_step (o := .quintic) S hL hR hhL hI

/-- **pivot non-singularity, every N**: for positive durations no pivot determinant of the block elimination vanishes -/
theorem detOK_of_pos (hs Ps : List K) (bL bR : V2 K) (hpos : ∀ h ∈ hs, 0 < h) :
    DetOK none (rows bL bR (mkSegs hs Ps)) :=
  HS.detOK_of_pos (o := .quintic) hs Ps bL bR hpos

end QuinticPiv

namespace SepticPiv
open ST.Septic SepticAdj
variable {K : Type} [Field K] [LinearOrder K] [IsStrictOrderedRing K]

theorem inv_step (S : M3 K) (hL hR : K) (hhL : 0 < hL) (hI : Inv S hL) :
    Inv (blockD (mkTP hL) (mkTP hR) - blockL (mkTP hL) * (M3.inv S * blockU (mkTP hL))) hR :=
  HS.inv_step (o := .septic) S hL hR hhL hI

/-- **pivot non-singularity, every N**: for positive durations no pivot determinant of the block elimination vanishes -/
theorem detOK_of_pos (hs Ps : List K) (bL bR : V3 K) (hpos : ∀ h ∈ hs, 0 < h) :
    DetOK none (rows bL bR (mkSegs hs Ps)) :=
  HS.detOK_of_pos (o := .septic) hs Ps bL bR hpos

end SepticPiv
