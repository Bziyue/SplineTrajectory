import STProofs.PPolyRoutes
import Mathlib.MeasureTheory.Integral.IntervalIntegral.FundThmCalculus
import Mathlib.Analysis.Normed.Module.Basic
/-!
# C20 — the reported trajectory length is a left-endpoint Riemann sum of speed, and its error bound

* `trajLength_eq_riemann` : for every cache state (`CacheInv`), `getTrajectoryLength(start, end, dt)` of the model is
  `Σ_i speed(t_i)·(t_{i+1} − t_i)` over the generated time sequence, with `speed(t) = sqrt ⟨v(t), v(t)⟩` and `v` the
  first-derivative evaluation;
* `riemann_error_bound` : for any curve with velocity `v` and continuous acceleration `a = v'` (in any complete normed
  space) and any non-decreasing sample sequence with steps `≤ δ`,
  `|Σ ‖v(t_i)‖ (t_{i+1} − t_i) − ∫ ‖v‖| ≤ δ · ∫ ‖a‖`.
-/
open ST

section model
variable {K : Type} [Field K] [LinearOrder K] [FloorRing K]

/-- left-endpoint Riemann sum of `speed` over a sample sequence -/
def riemannM (speed : K → K) : List K → K
  | t0 :: t1 :: rest => speed t0 * (t1 - t0) + riemannM speed (t1 :: rest)
  | _ => 0

theorem trajLength_go_eq (sqrt : K → K) (p : PPoly K) (ts : List K) :
    ∀ (q : PPoly K) (acc : K), CacheInv q → sameData p q →
      (PPoly.trajLength.go sqrt q acc ts).2
        = acc + riemannM (fun t => sqrt (dot (evalPure p t 1) (evalPure p t 1))) ts := by
  induction ts with
  | nil => intro q acc _ _; simp [PPoly.trajLength.go, riemannM]
  | cons t0 rest ih =>
    intro q acc hq hpq
    cases rest with
    | nil => simp [PPoly.trajLength.go, riemannM]
    | cons t1 rest' =>
      obtain ⟨hv, e2, e3⟩ := evaluate_sameData hq hpq t0 1
      show (PPoly.trajLength.go sqrt (q.evaluate t0 1).1
        (acc + sqrt (dot (q.evaluate t0 1).2 (q.evaluate t0 1).2) * (t1 - t0)) (t1 :: rest')).2 = _
      rw [ih _ _ e2 e3, hv, add_assoc]
      rfl

/-- **the reported length is the left-endpoint Riemann sum of speed over the generated time sequence** -/
theorem trajLength_eq_riemann (sqrt : K → K) (p : PPoly K) (h : CacheInv p) (s e dt : K) :
    (p.trajLength sqrt s e dt).2
      = riemannM (fun t => sqrt (dot (evalPure p t 1) (evalPure p t 1))) (PPoly.timeSequence s e dt) := by
  have := trajLength_go_eq sqrt p (PPoly.timeSequence s e dt) p (lit 0) h (AnyNum.sameData.refl p)
  simp only [PPoly.trajLength]
  rw [this]; simp [lit_eq]

end model

/-! ## the error bound (analysis, any complete normed space) -/
section analysis
open intervalIntegral MeasureTheory
variable {E : Type} [NormedAddCommGroup E] [NormedSpace ℝ E] [CompleteSpace E]

/-- one step: `|‖v s‖·Δ − ∫_s^{s+Δ} ‖v‖| ≤ Δ · ∫_s^{s+Δ} ‖a‖` -/
theorem step_bound (v a : ℝ → E) (hv : ∀ t, HasDerivAt v (a t) t) (ha : Continuous a) (s u : ℝ) (hsu : s ≤ u) :
    |‖v s‖ * (u - s) - ∫ t in s..u, ‖v t‖| ≤ (u - s) * ∫ t in s..u, ‖a t‖ := by
  have hnv : Continuous (fun t => ‖v t‖) := (continuous_iff_continuousAt.mpr fun t => (hv t).continuousAt).norm
  -- pointwise: |‖v s‖ − ‖v t‖| ≤ ‖v t − v s‖ = ‖∫_s^t a‖ ≤ ∫_s^t ‖a‖ ≤ ∫_s^u ‖a‖ for t ∈ [s,u]
  have hpt : ∀ t ∈ Set.uIoc s u, ‖‖v s‖ - ‖v t‖‖ ≤ ∫ r in s..u, ‖a r‖ := by
    intro t ht
    rw [Set.uIoc_of_le hsu] at ht
    have h1 : v t - v s = ∫ r in s..t, a r :=
      (integral_eq_sub_of_hasDerivAt (fun r _ => hv r) (ha.intervalIntegrable _ _)).symm
    calc ‖‖v s‖ - ‖v t‖‖ ≤ ‖v s - v t‖ := abs_norm_sub_norm_le _ _
      _ = ‖∫ r in s..t, a r‖ := by rw [norm_sub_rev, h1]
      _ ≤ ∫ r in s..t, ‖a r‖ := norm_integral_le_integral_norm ht.1.le
      _ ≤ ∫ r in s..u, ‖a r‖ := integral_mono_interval le_rfl ht.1.le ht.2 (Filter.Eventually.of_forall fun r => norm_nonneg _)
          (ha.norm.intervalIntegrable _ _)
  -- hence the integral of the difference over [s,u] is at most (u − s) times that bound
  have := norm_integral_le_of_norm_le_const hpt
  rw [integral_sub (continuous_const.intervalIntegrable _ _) (hnv.intervalIntegrable _ _),
    intervalIntegral.integral_const, smul_eq_mul, Real.norm_eq_abs, abs_of_nonneg (sub_nonneg.mpr hsu),
    mul_comm] at this
  exact this.trans_eq (mul_comm _ _)

/-- left-endpoint Riemann sum of the speed -/
noncomputable def riemann (v : ℝ → E) : List ℝ → ℝ
  | t0 :: t1 :: rest => ‖v t0‖ * (t1 - t0) + riemann v (t1 :: rest)
  | _ => 0

/-- non-decreasing samples with steps at most `δ` -/
def Steps (δ : ℝ) : List ℝ → Prop
  | t0 :: t1 :: rest => t0 ≤ t1 ∧ t1 - t0 ≤ δ ∧ Steps δ (t1 :: rest)
  | _ => True

/-- **C20: error bound of the reported length** -/
theorem riemann_error_bound (v a : ℝ → E) (hv : ∀ t, HasDerivAt v (a t) t) (ha : Continuous a) (δ : ℝ)
    (t0 : ℝ) (ts : List ℝ) (hst : Steps δ (t0 :: ts)) :
    |riemann v (t0 :: ts) - ∫ t in t0..((t0 :: ts).getLast (by simp)), ‖v t‖|
      ≤ δ * ∫ t in t0..((t0 :: ts).getLast (by simp)), ‖a t‖ := by
  have hvc : Continuous v := continuous_iff_continuousAt.mpr (fun t => (hv t).continuousAt)
  have hna : Continuous (fun t => ‖a t‖) := ha.norm
  have hnv : Continuous (fun t => ‖v t‖) := hvc.norm
  induction ts generalizing t0 with
  | nil => simp [riemann]
  | cons t1 rest ih =>
    obtain ⟨h01, hδ, hst'⟩ := hst
    have ih' := ih t1 hst'
    show |riemann v (t0 :: t1 :: rest) - ∫ t in t0..(t1 :: rest).getLast (by simp), ‖v t‖|
      ≤ δ * ∫ t in t0..(t1 :: rest).getLast (by simp), ‖a t‖
    set e := (t1 :: rest).getLast (by simp)
    have hsb := step_bound v a hv ha t0 t1 h01
    have hsplitv : (∫ t in t0..t1, ‖v t‖) + (∫ t in t1..e, ‖v t‖) = ∫ t in t0..e, ‖v t‖ :=
      integral_add_adjacent_intervals (hnv.intervalIntegrable t0 t1) (hnv.intervalIntegrable t1 e)
    have hsplita : (∫ t in t0..t1, ‖a t‖) + (∫ t in t1..e, ‖a t‖) = ∫ t in t0..e, ‖a t‖ :=
      integral_add_adjacent_intervals (hna.intervalIntegrable t0 t1) (hna.intervalIntegrable t1 e)
    have ha1 : 0 ≤ ∫ r in t0..t1, ‖a r‖ := integral_nonneg h01 (fun r _ => norm_nonneg _)
    simp only [riemann]
    rw [← hsplitv, ← hsplita, add_sub_add_comm]
    calc _ ≤ |‖v t0‖ * (t1 - t0) - ∫ t in t0..t1, ‖v t‖| + |riemann v (t1 :: rest) - ∫ t in t1..e, ‖v t‖| := abs_add_le _ _
      _ ≤ (t1 - t0) * (∫ r in t0..t1, ‖a r‖) + δ * ∫ t in t1..e, ‖a t‖ := add_le_add hsb ih'
      _ ≤ δ * ((∫ r in t0..t1, ‖a r‖) + ∫ t in t1..e, ‖a t‖) := by
          rw [mul_add]; exact add_le_add_left (mul_le_mul_of_nonneg_right hδ ha1) _

end analysis
