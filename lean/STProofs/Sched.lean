import STModel
import Mathlib.Logic.Function.Basic
import Mathlib.Data.List.Perm.Basic
import Mathlib.Data.List.Nodup
/-!
# Schedule independence of the per-segment quadrature (C12), for arbitrary — possibly non-associative —
arithmetic

`calculateIntegralCost` hands the executor a lambda which, for segment `i`, reads only read-only inputs
(decoded durations, coefficients, start times computed beforehand) and slot `i` of four per-segment arrays, and
writes only slot `i` of those arrays; the cross-segment reductions (`cost += …`, the suffix sums of the explicit-time
term) happen afterwards, serially.  So every executor schedule that calls each index once produces the *same bits*:
no floating-point operation is ever re-associated.
-/

/-- per-segment arrays of the workspace (`gdT`, `gdC` block, `segment_costs`, `explicit_time_grad_buffer`) -/
structure SegArrays (β γ : Type) where
  gdT : Nat → β
  gdC : Nat → γ
  cost : Nat → β
  expl : Nat → β

/-- the lambda: `res i` is what segment `i` computes from the read-only inputs; `addβ`, `addγ` are the (arbitrary)
accumulation operations `+=` -/
def segStep {β γ : Type} (addβ : β → β → β) (addγ : γ → γ → γ) (res : Nat → β × γ × β × β)
    (st : SegArrays β γ) (i : Nat) : SegArrays β γ :=
  { gdT := Function.update st.gdT i (addβ (st.gdT i) (res i).1),
    gdC := Function.update st.gdC i (addγ (st.gdC i) (res i).2.1),
    cost := Function.update st.cost i (res i).2.2.1,
    expl := Function.update st.expl i (addβ (st.expl i) (res i).2.2.2) }

variable {β γ : Type} (addβ : β → β → β) (addγ : γ → γ → γ) (res : Nat → β × γ × β × β)

/-- frame condition: step `i` leaves every other slot untouched -/
theorem segStep_frame (st : SegArrays β γ) (i j : Nat) (h : j ≠ i) :
    (segStep addβ addγ res st i).gdT j = st.gdT j ∧ (segStep addβ addγ res st i).gdC j = st.gdC j ∧
    (segStep addβ addγ res st i).cost j = st.cost j ∧ (segStep addβ addγ res st i).expl j = st.expl j := by
  simp [segStep, Function.update_of_ne h]

/-- steps on different segments commute exactly (no arithmetic is shared) -/
theorem segStep_comm (st : SegArrays β γ) (i j : Nat) (h : i ≠ j) :
    segStep addβ addγ res (segStep addβ addγ res st i) j = segStep addβ addγ res (segStep addβ addγ res st j) i := by
  have hji : j ≠ i := fun e => h e.symm
  simp only [segStep, Function.update_of_ne h, Function.update_of_ne hji]
  congr 1 <;> exact Function.update_comm hji _ _ _ |>.symm

/-- **every schedule gives the same result**: any two orders in which the executor visits the same set of segments
(each once) produce identical arrays -/
theorem perm_invariant (st : SegArrays β γ) (l₁ l₂ : List Nat) (hp : l₁.Perm l₂) (hnd : l₁.Nodup) :
    l₁.foldl (segStep addβ addγ res) st = l₂.foldl (segStep addβ addγ res) st :=
  hp.foldl_eq' (fun x _ y _ z => by
    by_cases h : x = y
    · rw [h]  -- the same segment twice: nothing to swap, so `hnd` plays no part
    · exact segStep_comm addβ addγ res z x y h) st

/-- in particular any permutation of `0 … N-1` equals serial execution -/
theorem schedule_eq_serial (st : SegArrays β γ) (n : Nat) (σ : List Nat) (hσ : σ.Perm (List.range n)) :
    σ.foldl (segStep addβ addγ res) st = (List.range n).foldl (segStep addβ addγ res) st :=
  perm_invariant addβ addγ res st σ (List.range n) hσ (hσ.nodup_iff.mpr List.nodup_range)

/-- a partition onto threads is a schedule too: running the chunks one after another, in any order, is a permutation -/
theorem chunks_eq_serial (st : SegArrays β γ) (n : Nat) (chunks : List (List Nat)) (hσ : chunks.flatten.Perm (List.range n)) :
    chunks.flatten.foldl (segStep addβ addγ res) st = (List.range n).foldl (segStep addβ addγ res) st :=
  schedule_eq_serial addβ addγ res st n _ hσ

/-! ### concurrent evaluations with per-thread workspaces -/

/-- optimizer-level state: the shared configuration (read-only once the layout is clean) and one workspace per thread -/
structure Shared (S W : Type) where
  cfg : S
  ws : Nat → W

/-- an evaluation by thread `k` with a clean layout cache: reads the configuration, rewrites only its own workspace -/
def evalOp {S W : Type} (F : S → W → W) (st : Shared S W) (k : Nat) : Shared S W :=
  { st with ws := Function.update st.ws k (F st.cfg (st.ws k)) }

theorem evalOp_comm {S W : Type} (F : S → W → W) (st : Shared S W) (k k' : Nat) (h : k ≠ k') :
    evalOp F (evalOp F st k) k' = evalOp F (evalOp F st k') k := by
  have h' : k' ≠ k := fun e => h e.symm
  simp only [evalOp, Function.update_of_ne h, Function.update_of_ne h']
  congr 1
  exact (Function.update_comm h' _ _ _).symm

/-- each thread obtains exactly the value of the same call made alone, whatever the other threads do -/
theorem evalOp_result {S W : Type} (F : S → W → W) (st : Shared S W) (others : List Nat) (k : Nat) (hk : k ∉ others) :
    (evalOp F (others.foldl (evalOp F) st) k).ws k = F st.cfg (st.ws k) := by
  have hcfg : ∀ (l : List Nat) (s : Shared S W), (l.foldl (evalOp F) s).cfg = s.cfg := by
    intro l; induction l with
    | nil => intro s; rfl
    | cons a l ih => intro s; rw [List.foldl_cons, ih]; rfl
  have hws : ∀ (l : List Nat) (s : Shared S W), k ∉ l → (l.foldl (evalOp F) s).ws k = s.ws k := by
    intro l; induction l with
    | nil => intro s _; rfl
    | cons a l ih =>
      intro s hn
      rw [List.foldl_cons, ih _ (fun h => hn (List.mem_cons_of_mem _ h))]
      have : k ≠ a := fun e => hn (by simp [e])
      simp [evalOp, Function.update_of_ne this]
  simp [evalOp, hcfg, hws others st hk]

/-- with a *dirty* layout cache an evaluation also writes the shared configuration (`ensureLayoutCache`): two
concurrent evaluations then both write the same location — the model-level statement of finding F1.  In the repaired
code the setters leave the cache clean (`lcache_clean_after_setter` in `STProofs.Layout`), so this path is unreachable
from `evaluate`. -/
def evalOpDirty {S W : Type} (rebuild : S → S) (F : S → W → W) (st : Shared S W) (k : Nat) : Shared S W :=
  { cfg := rebuild st.cfg, ws := Function.update st.ws k (F (rebuild st.cfg) (st.ws k)) }

theorem dirty_both_write {S W : Type} (rebuild : S → S) (F : S → W → W) (st : Shared S W) (k k' : Nat) :
    (evalOpDirty rebuild F st k).cfg = rebuild st.cfg ∧ (evalOpDirty rebuild F st k').cfg = rebuild st.cfg := ⟨rfl, rfl⟩

/-- non-vacuity of the premise of `schedule_eq_serial` -/
example : [2, 0, 1].Perm (List.range 3) := by decide
