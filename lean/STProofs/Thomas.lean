import STProofs.Alg
/-!
# The scalar tridiagonal elimination solves its system — every size, every `DivRing`

`Solves xp rows xs`: row-wise, `a·x_{i-1} + b·x_i + c·x_{i+1} = d` (with `xp` the value left of the first
unknown and 0 right of the last).  `PivOK`: every denominator the sweep divides by is a unit.  Under `PivOK` the sweep
returns a solution (`thomas_correct`) and there is no other (`thomas_unique`).
Because the statement holds over any `DivRing` it holds over the dual numbers, which gives the
differentiated system (`solves_projectR`) without differentiating through the recursion.
-/
open ST

section generic
variable {R : Type} [DivRing R]

def Solves : R → List (Row R) → List R → Prop
  | _, [], [] => True
  | xp, r :: rs, x :: xs => r.a * xp + r.b * x + r.c * (xs.headD 0) = r.d ∧ Solves x rs xs
  | _, _, _ => False

def PivOK : Option (R × R) → List (Row R) → Prop
  | _, [] => True
  | none, r :: rs => DivRing.U r.b ∧ PivOK (some (r.c * (1 / r.b), r.d * (1 / r.b))) rs
  | some (cp0, dp0), r :: rs =>
      DivRing.U (r.b - r.a * cp0) ∧
        PivOK (some (r.c * (1 / (r.b - r.a*cp0)), (r.d - r.a*dp0) * (1 / (r.b - r.a*cp0)))) rs

theorem back_cons (cp dp : R) (rest : List (R × R)) :
    back ((cp, dp) :: rest) = (dp - cp * (back rest).headD 0) :: back rest := by
  simp only [back]
  cases h : back rest with
  | nil => simp
  | cons x xs => simp

/-- the invariant of the sweep: continued after a row that has been eliminated to `x_prev + c'·x₀ = d'`, the two sweeps solve
the remaining rows with `d' − c'·x₀` as the value left of the first unknown -/
theorem thomas_some (cp0 dp0 : R) (rows : List (Row R)) (hp : PivOK (some (cp0, dp0)) rows) :
    let xs := back (fwd (some (cp0, dp0)) rows)
    Solves (dp0 - cp0 * xs.headD 0) rows xs := by
  induction rows generalizing cp0 dp0 with
  | nil => simp [fwd, back, Solves]
  | cons r rs ih =>
    obtain ⟨hden, hrest⟩ := hp
    have := ih _ _ hrest
    simp only [fwd, back_cons, List.headD_cons, lit_eq, Nat.cast_one] at this ⊢
    refine ⟨?_, this⟩
    set den := r.b - r.a * cp0 with hd
    set y := (back (fwd (some (r.c * (1 / den), (r.d - r.a * dp0) * (1 / den))) rs)).headD 0
    have h1 := DivRing.div_mul (1:R) den hden
    linear_combination (r.d - r.a * dp0 - r.c * y) * h1

theorem fwd_none (rows : List (Row R)) : fwd none rows = fwd (some (0, 0)) rows := by
  cases rows <;> simp [fwd]

theorem pivOK_none (rows : List (Row R)) : PivOK none rows ↔ PivOK (some (0, 0)) rows := by
  cases rows <;> simp [PivOK]

def HeadOK (rows : List (Row R)) : Prop := ∀ r rs, rows = r :: rs → r.a = 0

theorem solves_head (rows : List (Row R)) (h0 : HeadOK rows) (xp xp' : R) (xs : List R) (h : Solves xp rows xs) :
    Solves xp' rows xs := by
  match rows, xs, h with
  | [], [], _ => trivial
  | r :: rs, x :: xs, h => simpa [Solves, h0 r rs rfl] using h

theorem headOK_withRhs (rows : List (Row R)) (b : List R) (h : HeadOK rows) : HeadOK (withRhs rows b) := by
  intro r rs e
  match rows, b, e with
  | r0 :: _, _ :: _, e => simp only [withRhs, List.cons.injEq] at e; rw [← e.1]; exact h r0 _ rfl

/-- **Thomas elimination is correct** for every number of rows, over every `DivRing`. -/
theorem thomas_correct (rows : List (Row R)) (hp : PivOK none rows) (xp : R)
    (h0 : ∀ r rs, rows = r :: rs → r.a = 0) :
    Solves xp rows (thomas rows) := by
  rw [thomas, fwd_none]
  exact solves_head rows h0 _ xp _ (thomas_some 0 0 rows ((pivOK_none rows).mp hp))

theorem solves_length (xp : R) (rows : List (Row R)) (xs : List R) (h : Solves xp rows xs) :
    xs.length = rows.length := by
  induction rows generalizing xp xs with
  | nil => cases xs <;> simp_all [Solves]
  | cons r rs ih =>
    cases xs with
    | nil => simp [Solves] at h
    | cons x xs => simp [ih x xs h.2]

/-- the elimination recovers any solution: `x = d' − c'·x_next` row by row -/
theorem thomas_unique_some (cp0 dp0 : R) (rows : List (Row R)) (hp : PivOK (some (cp0, dp0)) rows)
    (xs : List R) (xp : R) (hx : Solves xp rows xs) (hrel : xp = dp0 - cp0 * xs.headD 0) :
    xs = back (fwd (some (cp0, dp0)) rows) := by
  induction rows generalizing cp0 dp0 xs xp with
  | nil => cases xs <;> simp_all [Solves, fwd, back]
  | cons r rs ih =>
    match xs, hx with
    | x :: xs, ⟨hrow, hx'⟩ =>
      obtain ⟨hden, hrest⟩ := hp
      simp only [List.headD_cons] at hrel
      have h1 := DivRing.div_mul (1:R) (r.b - r.a * cp0) hden
      have hxe : x = (r.d - r.a * dp0) * (1 / (r.b - r.a * cp0)) - r.c * (1 / (r.b - r.a * cp0)) * xs.headD 0 := by
        rw [hrel] at hrow
        linear_combination (-x) * h1 + (1 / (r.b - r.a * cp0)) * hrow
      have := ih _ _ hrest xs x hx' hxe
      simp only [fwd, back_cons, lit_eq, Nat.cast_one]
      rw [← this, ← hxe]

end generic

namespace CubicEG
variable {R : Type} [DivRing R]

/-- **the tridiagonal system has no other solution** than the one the elimination returns -/
theorem thomas_unique (rows : List (Row R)) (hp : PivOK none rows) (h0 : ∀ r rs, rows = r :: rs → r.a = 0)
    (xs : List R) (xp : R) (hx : Solves xp rows xs) : xs = thomas rows := by
  rw [thomas, fwd_none]
  exact thomas_unique_some 0 0 rows ((pivOK_none rows).mp hp) xs 0 (solves_head rows h0 xp 0 xs hx) (by simp)

end CubicEG

/-! ### systems with the right-hand side given separately; symmetric pairing -/
section field
variable {K : Type} [Field K]

def SolvesR : K → List (Row K) → List K → List K → Prop
  | _, [], [], [] => True
  | xp, r :: rs, x :: xs, b :: bs => r.a * xp + r.b * x + r.c * (xs.headD 0) = b ∧ SolvesR x rs xs bs
  | _, _, _, _ => False

theorem solvesR_iff (xp : K) (rows : List (Row K)) (xs b : List K) :
    SolvesR xp rows xs b ↔ b.length = rows.length ∧ Solves xp (withRhs rows b) xs := by
  induction rows generalizing xp xs b with
  | nil => cases xs <;> cases b <;> simp [SolvesR, Solves, withRhs]
  | cons r rs ih =>
    cases b with
    | nil => cases xs <;> simp [SolvesR]
    | cons b0 bs =>
      cases xs with
      | nil => simp [SolvesR, Solves, withRhs]
      | cons x xs =>
        simp only [SolvesR, withRhs, Solves, ih, List.length_cons, add_left_inj]
        exact ⟨fun ⟨h, l, s⟩ => ⟨l, h, s⟩, fun ⟨l, h, s⟩ => ⟨h, l, s⟩⟩

/-- pivots do not depend on the right-hand side (nor on the `d'` carried along) -/
theorem pivOK_withRhs (c d d' : K) (rows : List (Row K)) (b : List K) (h : PivOK (some (c, d)) rows) :
    PivOK (some (c, d')) (withRhs rows b) := by
  induction rows generalizing c d d' b with
  | nil => cases b <;> trivial
  | cons r rs ih =>
    cases b with
    | nil => trivial
    | cons b0 bs => exact ⟨h.1, ih _ _ _ bs h.2⟩

/-- `thomas (withRhs rows b)` is the one solution of `rows · x = b` (what `solveWithCachedLU` returns) -/
theorem thomasRhs_iff (rows : List (Row K)) (b xs : List K) (hp : PivOK none rows) (h0 : HeadOK rows)
    (hb : b.length = rows.length) : SolvesR 0 rows xs b ↔ xs = thomas (withRhs rows b) := by
  have hp' := (pivOK_none _).mpr (pivOK_withRhs 0 0 0 rows b ((pivOK_none rows).mp hp))
  rw [solvesR_iff]
  constructor
  · exact fun h => CubicEG.thomas_unique _ hp' (headOK_withRhs rows b h0) xs 0 h.2
  · rintro rfl
    exact ⟨hb, thomas_correct _ hp' 0 (headOK_withRhs rows b h0)⟩

/-- the matrix is symmetric: each sub-diagonal entry `a` is the super-diagonal entry `c` of the row above (`cprev` for the
first row) -/
def SymAux : K → List (Row K) → Prop
  | _, [] => True
  | cprev, r :: rs => r.a = cprev ∧ SymAux r.c rs

/-- `Σ u·(A w) = Σ (A u)·w` for a symmetric tridiagonal matrix, with the boundary terms explicit -/
theorem sym_pair (cprev up wp : K) (rows : List (Row K)) (u w ru rw : List K)
    (hs : SymAux cprev rows) (hu : SolvesR up rows u ru) (hw : SolvesR wp rows w rw) :
    dot u rw - dot ru w = cprev * (u.headD 0 * wp - w.headD 0 * up) := by
  induction rows generalizing cprev up wp u w ru rw with
  | nil =>
    match u, w, ru, rw, hu, hw with
    | [], [], [], [], _, _ => simp
  | cons r rs ih =>
    match u, w, ru, rw, hu, hw with
    | u0 :: us, w0 :: ws, a :: rus, b :: rws, hu, hw =>
      obtain ⟨ha, hs'⟩ := hs
      obtain ⟨hu0, hu'⟩ := hu
      obtain ⟨hw0, hw'⟩ := hw
      have := ih r.c u0 w0 us ws rus rws hs' hu' hw'
      simp only [dot_cons, List.headD_cons]
      rw [← hu0, ← hw0, ← ha]
      linear_combination this

/-! ### projecting a dual solution: real part solves the real system, dual part the differentiated one -/

def reRow (r : Row (Dual K)) : Row K := ⟨r.a.re, r.b.re, r.c.re, r.d.re⟩

theorem headD_map_re (l : List (Dual K)) : (l.map Dual.re).headD 0 = (l.headD 0).re := List.headD_map (f := Dual.re) (a := 0)
theorem headD_map_du (l : List (Dual K)) : (l.map Dual.du).headD 0 = (l.headD 0).du := List.headD_map (f := Dual.du) (a := 0)

/-- right-hand side of the differentiated system `A·dx = d' − A'·x` -/
def rhoList : K → List (Row (Dual K)) → List K → List K
  | xp, r :: rs, x :: xs =>
      (r.d.du - (r.a.du * xp + r.b.du * x + r.c.du * xs.headD 0)) :: rhoList x rs xs
  | _, _, _ => []

theorem solves_dual (xp : Dual K) (rows : List (Row (Dual K))) (xs : List (Dual K)) (h : Solves xp rows xs) :
    Solves xp.re (rows.map reRow) (xs.map Dual.re) ∧
      SolvesR xp.du (rows.map reRow) (xs.map Dual.du) (rhoList xp.re rows (xs.map Dual.re)) := by
  induction rows generalizing xp xs with
  | nil => cases xs <;> simp_all [Solves, SolvesR, rhoList]
  | cons r rs ih =>
    match xs, h with
    | x :: xs, ⟨hrow, hrest⟩ =>
      obtain ⟨i1, i2⟩ := ih x xs hrest
      have e1 := congrArg Dual.re hrow
      have e2 := congrArg Dual.du hrow
      simp only [Dual.add_re, Dual.mul_re, Dual.add_du, Dual.mul_du] at e1 e2
      refine ⟨⟨?_, i1⟩, ?_, i2⟩ <;> simp only [reRow, headD_map_re, headD_map_du]
      · exact e1
      · linear_combination e2

theorem solves_re (xp : Dual K) (rows : List (Row (Dual K))) (xs : List (Dual K))
    (h : Solves xp rows xs) : Solves xp.re (rows.map reRow) (xs.map Dual.re) :=
  (solves_dual xp rows xs h).1

theorem solves_projectR (xp : Dual K) (rows : List (Row (Dual K))) (xs : List (Dual K))
    (h : Solves xp rows xs) :
    SolvesR xp.du (rows.map reRow) (xs.map Dual.du) (rhoList xp.re rows (xs.map Dual.re)) :=
  (solves_dual xp rows xs h).2

end field
