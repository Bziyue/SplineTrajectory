import STProofs.Structure
/-!
# C01 — durations-plus-start and absolute time points describe the same spline

`convertTimePointsToSegments` (`diffs`) inverts the cumulative knot times exactly (over a field), so constructing from
the time points `t₀, t₀+T₀, t₀+T₀+T₁, …` is constructing from `(T, t₀)`.
-/
open ST

section
variable {K : Type} [Field K]

theorem diffs_cumulative (t0 : K) (hs : List K) : diffs (cumulative t0 hs) = hs := by
  induction hs generalizing t0 with
  | nil => simp [cumulative, diffs]
  | cons h hs ih =>
    have := ih (t0 + h)
    cases hs with
    | nil => simp [cumulative, diffs]
    | cons h' hs' =>
      simp only [cumulative, diffs] at this ⊢
      rw [this]; simp

theorem cumulative_head (t0 : K) (hs : List K) : (cumulative t0 hs).headD (lit 0) = t0 := by
  cases hs <;> simp [cumulative]

/-- **the two time specifications give the same spline** (every order, dimension, N) -/
theorem buildNDtp_cumulative (o : Order) (d : Nat) (t0 : K) (hs : List K) (P : List (Vec K)) (bc : BC K) :
    buildNDtp o d (cumulative t0 hs) P bc = buildND o d hs P t0 bc := by
  simp only [buildNDtp, diffs_cumulative, cumulative_head]

theorem cumulative_last (t0 : K) (hs : List K) : (cumulative t0 hs).getLast? = some (t0 + hs.sum) := by
  induction hs generalizing t0 with
  | nil => simp [cumulative]
  | cons h hs ih => simp [cumulative, List.getLast?_cons, ih, add_assoc]

end
