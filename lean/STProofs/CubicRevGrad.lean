import STProofs.CubicRev
/-!
# C14 (cubic): the analytic energy gradients of the time-reversed spline are the mirrored gradients

With the reversed data (`CubicRev.build_reverse`): the duration gradients and the inner-point gradients are the original
ones in reverse order; the boundary gradients swap start and end, the velocity (odd) component changing sign.

Durations and pieces are taken as one list of pairs `l`, as in `CubicEG.Path`; the reversed spline is `revL l`, and each
of the four statements is a statement about `map` and `reverse` of one list.
-/
open ST ST.Cubic CubicEG CubicU

namespace CubicRev
section field
variable {K : Type} [Field K]

theorem gradInner_snoc (l : List (C4 K)) (a b : C4 K) :
    gradInner (l ++ [a, b]) = gradInner (l ++ [a]) ++ [lit 12 * (b.c3 - a.c3)] := by
  induction l with
  | nil => simp [gradInner]
  | cons x l ih =>
    cases l with
    | nil => simp [gradInner]
    | cons y l' =>
      simp only [List.cons_append, gradInner] at ih ⊢
      rw [ih]

theorem gradInner_revL : ∀ l : List (K × C4 K),
    gradInner ((revL l).map Prod.snd) = (gradInner (l.map Prod.snd)).reverse
  | [] | [_] => by simp [revL, gradInner]
  | x :: y :: l => by
    have ih := gradInner_revL (y :: l)
    simp only [revL, List.map_cons, List.reverse_cons, List.map_append, List.map_nil, List.append_assoc,
      List.cons_append, List.nil_append, gradInner] at ih ⊢
    rw [gradInner_snoc, ih]
    simp only [revC, lit_eq]
    congr 2
    ring

theorem energy_pairs (l : List (K × C4 K)) :
    energy (l.map Prod.fst) (l.map Prod.snd) = (l.map fun x => energySeg x.1 x.2).sum := by
  induction l with
  | nil => simp [energy]
  | cons x l ih => simp [energy, ih]

end field

variable {K : Type} [Field K] [LinearOrder K] [IsStrictOrderedRing K]

/-- the duration gradient is a first integral of the optimal piece: same value from either end -/
theorem gradTime_rev (h : K) (c : C4 K) : gradTime (revC h c) = gradTime c := by
  simp only [gradTime, revC, ev, ev1, ev2, lit_eq]
  ring

theorem gradTimes_revL (l : List (K × C4 K)) :
    ((revL l).map Prod.snd).map gradTime = ((l.map Prod.snd).map gradTime).reverse := by
  simp [revL, List.map_reverse, Function.comp_def, gradTime_rev]

/-- boundary gradient with the odd (velocity) component negated -/
def flipB (g : BGrad K) : BGrad K := ⟨g.p, -g.v⟩

theorem gradBoundary_revL (l : List (K × C4 K)) (hne : l ≠ []) :
    gradBoundary ((revL l).map Prod.fst) ((revL l).map Prod.snd)
      = (flipB (gradBoundary (l.map Prod.fst) (l.map Prod.snd)).2, flipB (gradBoundary (l.map Prod.fst) (l.map Prod.snd)).1) := by
  obtain ⟨x, hx⟩ : ∃ x, l.head? = some x := by cases l <;> simp_all
  obtain ⟨y, hy⟩ : ∃ y, l.getLast? = some y := by cases l <;> simp_all [List.getLast?_cons]
  simp only [gradBoundary, revL, List.map_reverse, List.map_map, List.head?_reverse, List.getLast?_reverse,
    List.head?_map, List.getLast?_map, hx, hy, Option.map_some, Function.comp_def]
  simp only [flipB, revC, ev, ev1, ev2, lit_eq, Prod.mk.injEq, BGrad.mk.injEq]
  push_cast
  refine ⟨⟨?_, ?_⟩, ⟨?_, ?_⟩⟩ <;> ring

theorem energy_revL (l : List (K × C4 K)) :
    energy ((revL l).map Prod.fst) ((revL l).map Prod.snd) = energy (l.map Prod.fst) (l.map Prod.snd) := by
  rw [energy_pairs, energy_pairs]
  simp [revL, List.sum_reverse, Function.comp_def, energySeg_rev]

/-- **C14 (cubic): mirrored gradients** — of the time-reversed spline, `getEnergyGradTimes` and `getEnergyGradInnerPoints` are
the original ones in reverse order, `getEnergyGradBoundary` has start and end swapped with the velocity component negated,
and the energy is the same -/
theorem energyGrads_reverse (hs Ps : List K) (v0 vn : K) (hpos : PosList hs) (hne0 : hs ≠ [])
    (hP : Ps.length = hs.length + 1) :
    let cs := build hs Ps v0 vn
    let cs' := build hs.reverse Ps.reverse (-vn) (-v0)
    cs'.map gradTime = (cs.map gradTime).reverse ∧ gradInner cs' = (gradInner cs).reverse ∧
    gradBoundary hs.reverse cs' = (flipB (gradBoundary hs cs).2, flipB (gradBoundary hs cs).1) ∧
    energy hs.reverse cs' = energy hs cs := by
  intro cs cs'
  have hcl : cs.length = hs.length := by simp [cs, hP]
  have h1 : (hs.zip cs).map Prod.fst = hs := List.map_fst_zip (by simp [hcl])
  have h2 : (hs.zip cs).map Prod.snd = cs := List.map_snd_zip (by simp [hcl])
  have hne : hs.zip cs ≠ [] := fun e => hne0 (by rw [← h1, e]; rfl)
  have hrev : cs' = (revL (hs.zip cs)).map Prod.snd := by
    rw [revL_snd, h1, h2]; exact build_reverse hs Ps v0 vn hpos hne0 hP
  have hrevT : hs.reverse = (revL (hs.zip cs)).map Prod.fst := by rw [revL_fst, h1]
  rw [hrev, hrevT]
  have a := gradTimes_revL (hs.zip cs)
  have b := gradInner_revL (hs.zip cs)
  have c := gradBoundary_revL (hs.zip cs) hne
  have d := energy_revL (hs.zip cs)
  rw [h1, h2] at c d
  rw [h2] at a b
  exact ⟨a, b, c, d⟩

end CubicRev
