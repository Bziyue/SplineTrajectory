import STProofs.CubicKKT
/-!
# C02 (cubic): the C² interpolating spline with prescribed boundary velocities is unique — every N

Any list of cubic pieces satisfying the optimality conditions (`CubicSpec`: interpolation, C¹, C², end velocity; plus the
start velocity) is the list the code builds: a cubic is determined by its end values and end second derivatives
(`piece_determined`), the knot second derivatives of such a list solve the tridiagonal system (`path_of_spec`,
`solves_of_path`), and that system has exactly one solution (`knotM_unique`).  In terms of paths of knot states:
`path_unique`, of which `cubic_unique` is the reading in terms of `CubicSpec`.
-/
open ST ST.Cubic CubicEG

namespace CubicU
section charzero
variable {K : Type} [Field K] [CharZero K]

/-- a cubic is its own closure piece -/
theorem piece_determined (s : Seg K) (c : C4 K) (hh : s.h ≠ 0) (h0 : ev c 0 = s.p0) (h1 : ev c s.h = s.p0 + s.pd * s.h) :
    piece s (ev2 c 0) (ev2 c s.h) = c := by
  simp only [ev] at h0 h1
  have hp0 : s.p0 = c.c0 := by rw [← h0]; ring
  have hpd : s.pd = c.c1 + c.c2 * s.h + c.c3 * s.h ^ 2 := by
    have : s.pd * s.h = (c.c1 + c.c2 * s.h + c.c3 * s.h ^ 2) * s.h := by rw [hp0] at h1; linear_combination -h1
    exact mul_right_cancel₀ hh this
  ext
  · exact hp0
  · simp only [piece, ev2, hpd]; field_simp; ring
  · simp only [piece, ev2]; ring
  · simp only [piece, ev2]; field_simp; ring

theorem interp_mkSeg (h p0 p1 : K) (c : C4 K) (hh : h ≠ 0) (e : ev c 0 = p0 ∧ ev c h = p1) :
    piece (mkSeg h p0 p1) (ev2 c 0) (ev2 c h) = c :=
  piece_determined (mkSeg h p0 p1) c hh e.1 (e.2.trans (mkSeg_end h p0 p1 hh).symm)

def endA : List K → List (C4 K) → List K
  | h :: hs, c :: cs => ev2 c h :: endA hs cs
  | _, _ => []

/-- along a path that ends with velocity `vn` and starts with the velocity the piece over `prev` ends with, the knot
accelerations solve the rows after `prev`, and the pieces are their closure -/
theorem solves_of_path (vn : K) (prev : Seg K) (mp : K) (hs : List K) (cs : List (C4 K)) (a b : K × K × K)
    (hne : ∀ x ∈ hs, x ≠ 0) (hl : cs.length = hs.length) (hp : Path a (hs.zip cs) b) (hb : b.2.1 = vn)
    (hv : a.2.1 = ev1 (piece prev mp a.2.2) prev.h) :
    closure (mkSegs hs (knotsOf (hs.zip cs) b)) (a.2.2 :: endA hs cs) = cs ∧
      Solves mp (interiorRows vn prev (mkSegs hs (knotsOf (hs.zip cs) b))) (a.2.2 :: endA hs cs) := by
  induction hs generalizing prev mp cs a with
  | nil =>
    match cs, hl with
    | [], _ =>
      cases hp
      exact ⟨rfl, (solves_interior_nil ..).mpr ⟨_, rfl, hv ▸ hb⟩⟩
  | cons h hs ih =>
    match cs, hl with
    | c :: cs, hl =>
      rw [List.zip_cons_cons] at hp ⊢
      obtain ⟨rfl, hp⟩ := hp
      have hd := interp_mkSeg h (ev c 0) (ev c h) c (hne h (by simp)) ⟨rfl, rfl⟩
      obtain ⟨i1, i2⟩ := ih (mkSeg h (ev c 0) (ev c h)) (ev2 c 0) cs (St c h) (fun x hx => hne x (by simp [hx]))
        (by simpa using hl) hp (congrArg (ev1 · h) hd).symm
      rw [knotsOf_cons, ← knots_shift _ _ _ hp, mkSegs_cons, knots_shift _ _ _ hp, endA, solves_interior_cons, closure_cons]
      exact ⟨(congrArg (· :: _) hd).trans (congrArg (c :: ·) i1), (congrArg (ev1 · 0) hd).trans hv, i2⟩

end charzero

variable {K : Type} [Field K] [LinearOrder K] [IsStrictOrderedRing K]

/-- **uniqueness, in terms of paths**: a path of knot states over positive durations is the spline built from its own knots
and end velocities -/
theorem path_unique (hs : List K) (cs : List (C4 K)) (a b : K × K × K) (hpos : PosList hs) (hne : hs ≠ [])
    (hl : cs.length = hs.length) (hp : Path a (hs.zip cs) b) :
    cs = build hs (knotsOf (hs.zip cs) b) a.2.1 b.2.1 := by
  obtain ⟨h1, h2⟩ := solves_of_path b.2.1 (seg0 a.2.1) 0 hs cs a b (fun x hx => ((posList_iff _).mp hpos x hx).ne') hl hp rfl
    (by simp)
  rw [← rows_eq_interior _ _ _ (mkSegs_ne_nil hs _ hne (by simp [knotsOf, hl]))] at h2
  rw [build, knotM_unique _ _ _ (allPos_mkSegs hs _ hpos) _ h2, h1]

/-- **C02 (cubic): uniqueness** — every list of cubic pieces that interpolates the waypoints at the knot times, is C¹
and C² at the interior knots and has the prescribed boundary velocities is the list of published pieces -/
theorem cubic_unique (hs Ps : List K) (v0 vn : K) (hpos : PosList hs) (c : C4 K) (cs : List (C4 K))
    (hspec : CubicSpec vn hs Ps (c :: cs)) (hv : ev1 c 0 = v0) : c :: cs = build hs Ps v0 vn := by
  obtain ⟨-, hl⟩ := spec_lengths _ _ _ _ hspec
  obtain ⟨a, b, hp, rfl, rfl, rfl⟩ := path_of_spec v0 vn hs Ps _ hspec (by rintro p ps ⟨rfl, -⟩; exact hv)
  exact path_unique hs _ a b hpos (by rintro rfl; simp at hl) hl hp

end CubicU
