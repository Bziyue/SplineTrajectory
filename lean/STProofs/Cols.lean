import STProofs.QuadDual
/-!
# A `GradsND` stacked from per-coordinate columns, and its pairing with a tangent

Both gradient records of the D-dimensional spline are stacks of D columns of the shape `propCol` returns, (points `[n+1]`,
times `[n]`, start `[v,a,j]`, end `[v,a,j]`): `(buildND …).energyGrad` as it stands (`energyGrad_eq`), `propagateND …` with the
upstream duration gradient added to the times (`propagateND_eq`).  `ndPair_ofCols` splits the
pairing of such a stack with a tangent of (waypoints, durations, boundary states) into the sum over the coordinates of the
column pairings `colPair`; the left-hand sides split the same way (`blockDotL_coeffs`), the published coefficient table being
the stack of the columns' tables (`buildND_coeffs`).
-/
open ST QuadDual
open scoped BigOperators

theorem ST.buildND_coeffs {α : Type} [Num α] (o : Order) (d : Nat) (hs : List α) (P : List (Vec α)) (t0 : α) (bc : BC α) :
    (buildND o d hs P t0 bc).coeffs = (List.range hs.length).map (fun i => (List.range o.coeffNum).map (fun k =>
      (List.range d).map (fun j => ((colOf o hs P bc j).coeffs.getD i []).getD k (lit 0)))) := by
  simp only [buildND, stack, List.map_map]; rfl

namespace EvalCore
variable {K : Type}

/-- the point gradients of a record, in waypoint order -/
def pts (g : GradsND K) : List (Vec K) := g.start.p :: (g.inner ++ [g.fin.p])

end EvalCore

namespace NDAdj
open EvalCore (pts)
variable {K : Type} [Field K]

/-! ## one coordinate of the D-dimensional data -/

def bcRe (bc : BC (Dual K)) : BC K := ⟨vre bc.v0, vre bc.a0, vre bc.j0, vre bc.vn, vre bc.an, vre bc.jn⟩
def bcDu (bc : BC (Dual K)) : BC K := ⟨vdu bc.v0, vdu bc.a0, vdu bc.j0, vdu bc.vn, vdu bc.an, vdu bc.jn⟩

theorem bcRe_setBlock {R : Type} (bc : BC (Dual R)) (b : DBlock) (v : Vec (Dual R)) :
    bcRe (bc.setBlock b v) = (bcRe bc).setBlock b (vre v) := by
  cases b <;> rfl

theorem getC_vre (v : Vec (Dual K)) (j : Nat) : getC (vre v) j = (getC v j).re := getD_map' _ _ _ _ _ rfl
theorem getC_vdu (v : Vec (Dual K)) (j : Nat) : getC (vdu v) j = (getC v j).du := getD_map' _ _ _ _ _ (by simp [lit_eq])

theorem col_re (P : List (Vec (Dual K))) (j : Nat) :
    (P.map vre).map (fun r => getC r j) = (P.map (fun r => getC r j)).map Dual.re := by
  simp only [List.map_map]; apply List.map_congr_left; intro r _; simp [Function.comp, getC_vre]

theorem col_du (P : List (Vec (Dual K))) (j : Nat) :
    (P.map vdu).map (fun r => getC r j) = (P.map (fun r => getC r j)).map Dual.du := by
  simp only [List.map_map]; apply List.map_congr_left; intro r _; simp [Function.comp, getC_vdu]

noncomputable def flatPair (G : Nat → Nat → K) (cs : List (List (Dual K))) (n nc : Nat) : K :=
  ∑ i ∈ Finset.range n, ∑ k ∈ Finset.range nc, G i k * ((cs.getD i []).getD k (lit 0)).du

/-- `flatPair` on a table whose rows list coefficient records (`toL`), as a pairing `S` of the records themselves: `mk i`
collects row `i` of `G` into a record, and `hf` is the claim for one record -/
theorem flatPair_zipSum {β γ : Type} {f : β → γ → K} {S : List β → List γ → K} (h : ZipSum f S) (zb : β) (zc : γ)
    (hb : ∀ y, f zb y = 0) (hc : ∀ x, f x zc = 0) (toL : γ → List (Dual K)) (mk : Nat → β) (G : Nat → Nat → K) (nc : Nat)
    (hf : ∀ i c, ∑ k ∈ Finset.range nc, G i k * ((toL c).getD k (lit 0)).du = f (mk i) c)
    (n : Nat) (cs : List γ) (hl : cs.length = n) :
    flatPair G (cs.map toL) n nc = S ((List.range n).map mk) cs := by
  rw [h.map_range_left zb zc hb hc]
  refine Finset.sum_congr rfl (fun i hi => ?_)
  have hi' : i < cs.length := hl ▸ Finset.mem_range.mp hi
  rw [List.getD_eq_getElem _ _ (by simpa using hi'), List.getD_eq_getElem _ _ hi', List.getElem_map, hf]

/-- what one column of `propagateGrad` returns, paired with that column's tangent -/
def colPair (out : List K × List K × List K × List K) (dP dh : List K) (dv0 da0 dj0 dvn dan djn : K) : K :=
  dot out.1 dP + dot out.2.1 dh
    + out.2.2.1.getD 0 0 * dv0 + out.2.2.1.getD 1 0 * da0 + out.2.2.1.getD 2 0 * dj0
    + out.2.2.2.getD 0 0 * dvn + out.2.2.2.getD 1 0 * dan + out.2.2.2.getD 2 0 * djn

/-- pairing of everything `propagateGrad` returns with a tangent of (waypoints, durations, boundary states) -/
def ndPair (out : GradsND K) (dP : List (Vec K)) (dh : List K) (dbc : BC K) : K :=
  blockDot (out.start.p :: (out.inner ++ [out.fin.p])) dP + dot out.times dh
    + dot out.start.v dbc.v0 + dot out.start.a dbc.a0 + dot out.start.j dbc.j0
    + dot out.fin.v dbc.vn + dot out.fin.a dbc.an + dot out.fin.j dbc.jn

theorem ndPair_eq (g : GradsND K) (dP : List (Vec K)) (dh : List K) (dbc : BC K) :
    ndPair g dP dh dbc = blockDot (pts g) dP + dot g.times dh
      + dot g.start.v dbc.v0 + dot g.start.a dbc.a0 + dot g.start.j dbc.j0
      + dot g.fin.v dbc.vn + dot g.fin.a dbc.an + dot g.fin.j dbc.jn := rfl

theorem pts_getD {R : Type} (n : Nat) (g : GradsND R) (j : Nat) (hi : g.inner.length = n - 1) (hj : j ≤ n) :
    (pts g).getD j [] = pointGradOf n g j := by
  simp only [pts, pointGradOf]
  rcases j with _ | j
  · simp
  · rw [List.getD_cons_succ]
    by_cases hjn : j + 1 = n
    · rw [if_neg (by omega), if_pos hjn, List.getD_append_right _ _ _ _ (by omega), show j - g.inner.length = 0 by omega]
      rfl
    · rw [if_neg (by omega), if_neg hjn, List.getD_append _ _ _ _ (by omega)]
      rfl

/-- left-hand side of the D-dimensional adjoint identity, by coordinate -/
theorem blockDotL_coeffs (o : Order) (d : Nat) (hs : List (Dual K)) (P : List (Vec (Dual K))) (t0 : Dual K)
    (bc : BC (Dual K)) (gC : List (List (Vec K))) :
    blockDotL gC ((buildND o d hs P t0 bc).coeffs.map (·.map vdu))
      = ∑ j ∈ Finset.range d, flatPair (fun i k => getC ((gC.getD i []).getD k []) j) (colOf o hs P bc j).coeffs
          hs.length o.coeffNum := by
  rw [buildND_coeffs, List.map_map, blockDotL_map_range_right]
  simp only [Function.comp, List.map_map, vdu, blockDot_map_range_right, dot_map_range_right, flatPair, getC_eq]
  exact (Finset.sum_congr rfl (fun i _ => Finset.sum_comm)).trans Finset.sum_comm

abbrev ColG (K : Type) := List K × List K × List K × List K

/-- the record whose coordinate `j` is column `c j` (the times add up over the coordinates) -/
def ofCols (n d : Nat) (c : Nat → ColG K) : GradsND K :=
  let pt (i : Nat) : Vec K := (List.range d).map (fun j => (c j).1.getD i 0)
  let bs (k : Nat) : Vec K := (List.range d).map (fun j => (c j).2.2.1.getD k 0)
  let be (k : Nat) : Vec K := (List.range d).map (fun j => (c j).2.2.2.getD k 0)
  { inner := (List.range (n - 1)).map (fun i => pt (i + 1)),
    times := sumLists n ((List.range d).map (fun j => (c j).2.1)),
    start := ⟨pt 0, bs 0, bs 1, bs 2⟩, fin := ⟨pt n, be 0, be 1, be 2⟩ }

theorem pts_ofCols (n d : Nat) (c : Nat → ColG K) (hn : 1 ≤ n) :
    pts (ofCols n d c) = (List.range (n + 1)).map (fun i => (List.range d).map (fun j => (c j).1.getD i 0)) := by
  obtain ⟨m, rfl⟩ : ∃ m, n = m + 1 := ⟨n - 1, by omega⟩
  simp only [pts, ofCols, Nat.add_sub_cancel]
  rw [List.range_succ_eq_map (n := m + 1), List.map_cons, List.map_map, List.range_succ (n := m), List.map_append]
  simp [Function.comp]

theorem ndPair_ofCols (n d : Nat) (c : Nat → ColG K) (dP : List (Vec K)) (dh : List K) (dbc : BC K) (hn : 1 ≤ n)
    (hdP : dP.length ≤ n + 1) (hdh : dh.length ≤ n) (hT : ∀ j < d, n ≤ (c j).2.1.length) :
    ndPair (ofCols n d c) dP dh dbc
      = ∑ j ∈ Finset.range d, colPair (c j) (dP.map (fun r => getC r j)) dh
          (getC dbc.v0 j) (getC dbc.a0 j) (getC dbc.j0 j) (getC dbc.vn j) (getC dbc.an j) (getC dbc.jn j) := by
  have hP : blockDot (pts (ofCols n d c)) dP = ∑ j ∈ Finset.range d, dot (c j).1 (dP.map (fun r => getC r j)) := by
    rw [pts_ofCols n d c hn, blockDot_map_range]
    simp only [dot_map_range]
    rw [Finset.sum_comm]
    refine Finset.sum_congr rfl (fun j _ => ?_)
    rw [dot_eq_sum _ _ (n + 1) (by simp; omega)]
    exact Finset.sum_congr rfl (fun i _ => by rw [← getC_col, getC_eq])
  simp only [ndPair_eq, colPair, hP, Finset.sum_add_distrib]
  simp only [ofCols, dot_sumLists n d _ dh hdh hT, dot_map_range, getC_eq]

theorem ofCols_times_length (n d : Nat) (c : Nat → ColG K) (hT : ∀ j < d, n ≤ (c j).2.1.length) :
    (ofCols n d c).times.length = n :=
  (sumLists_spec n _ (by intro l hl; obtain ⟨j, hj, rfl⟩ := List.mem_map.mp hl; exact hT j (List.mem_range.mp hj))).1

theorem ndPair_addTimes (g : GradsND K) (gT : List K) (dP : List (Vec K)) (dh : List K) (dbc : BC K)
    (h : gT.length = g.times.length) :
    ndPair { g with times := zipAdd gT g.times } dP dh dbc = dot gT dh + ndPair g dP dh dbc := by
  simp only [ndPair, zipAdd_eq_vadd, dot_vadd_left _ _ _ h]; ring

/-! ## the two records of the model as stacks -/

theorem propagateND_eq (o : Order) (d : Nat) (h : List K) (P : List (Vec K)) (bc : BC K) (gC : List (List (Vec K)))
    (gT : List K) :
    propagateND o d h P bc gC gT
      = { ofCols h.length d (propCol o h P bc gC) with
          times := zipAdd gT (ofCols h.length d (propCol o h P bc gC)).times } := by
  simp only [propagateND, ofCols, List.map_map, lit_eq, Nat.cast_zero]
  rfl

/-- a column of the analytic energy gradient in the shape of `propCol` -/
def colG (c : Col K) : ColG K :=
  (c.gbStart.getD 0 0 :: (c.gradInner ++ [c.gbEnd.getD 0 0]), c.gradTimes,
    [c.gbStart.getD 1 0, c.gbStart.getD 2 0, c.gbStart.getD 3 0], [c.gbEnd.getD 1 0, c.gbEnd.getD 2 0, c.gbEnd.getD 3 0])

theorem energyGrad_eq (o : Order) (d : Nat) (h : List K) (P : List (Vec K)) (t0 : K) (bc : BC K) (hn : 1 ≤ h.length)
    (hlen : ∀ j, (colOf o h P bc j).gradInner.length = h.length - 1) :
    (buildND o d h P t0 bc).energyGrad = ofCols h.length d (fun j => colG (colOf o h P bc j)) := by
  have hin : ∀ j i, i < h.length - 1 → (colG (colOf o h P bc j)).1.getD (i + 1) 0 = (colOf o h P bc j).gradInner.getD i 0 := by
    intro j i hi
    simp only [colG]
    rw [List.getD_cons_succ, List.getD_append _ _ _ _ (hlen j ▸ hi)]
  have hfin : ∀ j, (colG (colOf o h P bc j)).1.getD h.length 0 = (colOf o h P bc j).gbEnd.getD 0 0 := by
    intro j
    obtain ⟨m, hm⟩ : ∃ m, h.length = m + 1 := ⟨h.length - 1, by omega⟩
    have := hlen j
    simp only [colG, hm]
    rw [List.getD_cons_succ, List.getD_append_right _ _ _ _ (by omega), this, hm, Nat.add_sub_cancel, Nat.sub_self]
    rfl
  simp only [buildND, ofCols, List.map_map, lit_eq, Nat.cast_zero, hfin]
  congr 1
  · exact List.map_congr_left (fun i hi => List.map_congr_left (fun j _ => (hin j i (List.mem_range.mp hi)).symm))

end NDAdj
