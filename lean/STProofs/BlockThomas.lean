import STProofs.Lengths
import Mathlib.Algebra.Module.Basic
import Mathlib.Tactic.Abel
import Mathlib.Tactic.LinearCombination
/-!
# Block-tridiagonal elimination solves its system — every number of blocks

Generic over a (non-commutative) ring `R` of blocks acting on a module `V`, with the inverse *function* a
parameter: the hypothesis `BPivOK` says that each pivot the sweep inverts satisfies `pivot · inv pivot = 1`.
The model's `bfwd` / `bback` are instantiated with the ring operations through `ringBlk`.

Further down: uniqueness and the adjoint of the two sweeps (`bsolveT_adjoint`); maps that commute with the block operations
commute with the sweeps (`BlkHom`, `bthomas_map`); systems with prescribed values at both ends (`BSolvesE`, `dirL`, `dirR`,
`bsolves_dirichlet`).
-/
open ST

section
variable {R V : Type} [Ring R] [AddCommGroup V] [Module R V]

@[reducible] def ringBlk (inv tr : R → R) : BlkOps R V :=
  { mul := (· * ·), sub := (· - ·), inv := inv, tr := tr, act := (· • ·), vsub := (· - ·) }

/-- row-wise: `L x_{i-1} + D x_i + U x_{i+1} = b` (with `xp` left of the first unknown, 0 right of the last) -/
def BSolves : V → List (BRow R V) → List V → Prop
  | _, [], [] => True
  | xp, r :: rs, x :: xs => r.l • xp + r.d • x + r.u • (xs.headD 0) = r.b ∧ BSolves x rs xs
  | _, _, _ => False

def BPivOK (inv : R → R) : Option (BFact R V) → List (BRow R V) → Prop
  | _, [] => True
  | none, r :: rs => (r.d * inv r.d = 1) ∧ BPivOK inv (some ⟨inv r.d, r.u, r.l, r.b⟩) rs
  | some p, r :: rs =>
      let dn := r.d - r.l * (p.dinv * p.u)
      (dn * inv dn = 1) ∧ BPivOK inv (some ⟨inv dn, r.u, r.l, r.b - r.l • (p.dinv • p.b)⟩) rs

variable (inv tr : R → R)

theorem bback_cons (f : BFact R V) (rest : List (BFact R V)) :
    @bback R V (ringBlk inv tr) (f :: rest)
      = (f.dinv • (f.b - f.u • (@bback R V (ringBlk inv tr) rest).headD 0)) :: @bback R V (ringBlk inv tr) rest := by
  simp only [bback]
  cases h : @bback R V (ringBlk inv tr) rest with
  | nil => simp [BlkOps.act]
  | cons x xs => simp [BlkOps.act, BlkOps.vsub]

/-- the invariant of the sweep, as in `thomas_some`: continued after the fact `p` (the previous row, eliminated, reads
`x_prev = D⁻¹ (b' − U x₀)`), the two sweeps solve the remaining rows with that value left of the first unknown -/
theorem bthomas_some (p : BFact R V) (rows : List (BRow R V)) (hp : BPivOK inv (some p) rows) :
    let xs := @bback R V (ringBlk inv tr) (@bfwd R V (ringBlk inv tr) (some p) rows)
    BSolves (p.dinv • (p.b - p.u • xs.headD 0)) rows xs := by
  induction rows generalizing p with
  | nil => simp [bfwd, bback, BSolves]
  | cons r rs ih =>
    obtain ⟨hden, hrest⟩ := hp
    have := ih _ hrest
    simp only [bfwd, bback_cons, List.headD_cons, BlkOps.mul, BlkOps.sub, BlkOps.inv, BlkOps.act, BlkOps.vsub] at this ⊢
    refine ⟨?_, this⟩
    set dn := r.d - r.l * (p.dinv * p.u) with hdn
    set y := (@bback R V (ringBlk inv tr) (@bfwd R V (ringBlk inv tr)
      (some ⟨inv dn, r.u, r.l, r.b - r.l • (p.dinv • p.b)⟩) rs)).headD 0
    -- `x = dn⁻¹ w` with `w = b' − U y`, and `dn • x = w` is the row
    have hw := congrArg (· • (r.b - r.l • (p.dinv • p.b) - r.u • y)) hden
    simp only [hdn, sub_smul, mul_smul, one_smul, smul_sub] at hw ⊢
    linear_combination (norm := abel) hw

/-- the fact a sweep may be thought to start after: `D − L (0·0) = D` and `b − L (0 • 0) = b`, so a fresh sweep is the
sweep started in this state, and statements about sweeps need the case `some` only -/
def fact0 : BFact R V := ⟨0, 0, 0, 0⟩

theorem bfwd_none (rows : List (BRow R V)) :
    @bfwd R V (ringBlk inv tr) none rows = @bfwd R V (ringBlk inv tr) (some fact0) rows := by
  cases rows <;> simp [bfwd, fact0, BlkOps.mul, BlkOps.sub, BlkOps.act, BlkOps.vsub]

theorem bpivOK_none (rows : List (BRow R V)) : BPivOK inv none rows ↔ BPivOK inv (some fact0) rows := by
  cases rows <;> simp [BPivOK, fact0]

/-- **block Thomas elimination is correct** for every number of block rows -/
theorem bthomas_correct (rows : List (BRow R V)) (hp : BPivOK inv none rows) :
    BSolves 0 rows (@bthomas R V (ringBlk inv tr) rows) := by
  simpa [bthomas, bfwd_none, fact0] using bthomas_some inv tr fact0 rows ((bpivOK_none inv rows).mp hp)

theorem bsolves_length (xp : V) (rows : List (BRow R V)) (xs : List V) (h : BSolves xp rows xs) :
    xs.length = rows.length := by
  induction rows generalizing xp xs with
  | nil => cases xs <;> simp_all [BSolves]
  | cons r rs ih =>
    cases xs with
    | nil => simp [BSolves] at h
    | cons x xs => simp [ih x xs h.2]

end

/-! ## uniqueness of the block solve, and the adjoint of the two sweeps

`ip` is a bilinear pairing of vectors with `ip (tr a • v) w = ip v (a • w)` (for column vectors and matrices:
the dot product and the transpose).  `adj_back` and `adj_fwd` are the adjoints of back substitution and forward
elimination: together they say that the transposed sweeps `bsolveT` compute `A⁻ᵀ g`.
-/
section adjoint
variable {R V S : Type} [Ring R] [AddCommGroup V] [Module R V] [AddCommGroup S]
variable (inv tr : R → R)

/-- pivots are two-sided inverses (true for the closed-form inverses over a commutative ring) -/
def BPivOK2 : Option (BFact R V) → List (BRow R V) → Prop
  | _, [] => True
  | none, r :: rs => (r.d * inv r.d = 1 ∧ inv r.d * r.d = 1) ∧ BPivOK2 (some ⟨inv r.d, r.u, r.l, r.b⟩) rs
  | some p, r :: rs =>
      let dn := r.d - r.l * (p.dinv * p.u)
      (dn * inv dn = 1 ∧ inv dn * dn = 1) ∧ BPivOK2 (some ⟨inv dn, r.u, r.l, r.b - r.l • (p.dinv • p.b)⟩) rs

theorem bpivOK_of_2 (st : Option (BFact R V)) (rows : List (BRow R V)) (h : BPivOK2 inv st rows) : BPivOK inv st rows := by
  induction rows generalizing st with
  | nil => cases st <;> trivial
  | cons r rs ih => cases st <;> exact ⟨h.1.1, ih _ h.2⟩

/-- as `thomas_unique_some`: a solution whose left neighbour is the value the eliminated previous row gives it (`hrel`) is
the one the sweeps return -/
theorem bthomas_unique_some (p : BFact R V) (rows : List (BRow R V)) (hp : BPivOK2 inv (some p) rows) (xs : List V) (xp : V)
    (hx : BSolves xp rows xs) (hrel : xp = p.dinv • (p.b - p.u • xs.headD 0)) :
    xs = @bback R V (ringBlk inv tr) (@bfwd R V (ringBlk inv tr) (some p) rows) := by
  induction rows generalizing p xs xp with
  | nil => cases xs <;> simp_all [BSolves, bfwd, bback]
  | cons r rs ih =>
    match xs, hx with
    | x :: xs, ⟨hrow, hx'⟩ =>
      obtain ⟨⟨-, hden⟩, hrest⟩ := hp
      simp only [List.headD_cons] at hrel
      set dn := r.d - r.l * (p.dinv * p.u) with hdn
      -- the row, with `xp` eliminated, is `dn • x = b' − U x_next`
      have hxe : x = inv dn • ((r.b - r.l • (p.dinv • p.b)) - r.u • xs.headD 0) := by
        have h1 : dn • x = (r.b - r.l • (p.dinv • p.b)) - r.u • xs.headD 0 := by
          rw [hrel] at hrow
          simp only [hdn, sub_smul, mul_smul, smul_sub] at hrow ⊢
          linear_combination (norm := abel) hrow
        rw [← h1, ← mul_smul, hden, one_smul]
      have := ih ⟨inv dn, r.u, r.l, r.b - r.l • (p.dinv • p.b)⟩ hrest xs x hx' hxe
      simp only [bfwd, bback_cons, BlkOps.mul, BlkOps.sub, BlkOps.inv, BlkOps.act, BlkOps.vsub]
      rw [← this, ← hxe]

theorem bpivOK2_none (rows : List (BRow R V)) : BPivOK2 inv none rows ↔ BPivOK2 inv (some fact0) rows := by
  cases rows <;> simp [BPivOK2, fact0]

/-- **the block system has no other solution** than the one the sweeps return -/
theorem bthomas_unique (rows : List (BRow R V)) (hp : BPivOK2 inv none rows) (xs : List V) (hx : BSolves 0 rows xs) :
    xs = @bthomas R V (ringBlk inv tr) rows := by
  simp only [bthomas, bfwd_none]
  exact bthomas_unique_some inv tr fact0 rows ((bpivOK2_none inv rows).mp hp) xs 0 hx (by simp [fact0])

variable (ip : V → V → S)

def ipSum : List V → List V → S
  | a :: as, b :: bs => ip a b + ipSum as bs
  | _, _ => 0

structure IsPairing : Prop where
  add_left : ∀ a b c, ip (a + b) c = ip a c + ip b c
  add_right : ∀ a b c, ip a (b + c) = ip a b + ip a c
  adj : ∀ (m : R) (v w : V), ip (tr m • v) w = ip v (m • w)

variable {ip tr}

theorem IsPairing.sub_left (h : IsPairing tr ip) (a b c : V) : ip (a - b) c = ip a c - ip b c := by
  have := h.add_left (a - b) b c
  rw [sub_add_cancel] at this
  rw [this]; abel
theorem IsPairing.sub_right (h : IsPairing tr ip) (a b c : V) : ip a (b - c) = ip a b - ip a c := by
  have := h.add_right a (b - c) c
  rw [sub_add_cancel] at this
  rw [this]; abel
theorem IsPairing.zero_right (h : IsPairing tr ip) (a : V) : ip a 0 = 0 := by
  have := h.sub_right a 0 0
  rwa [sub_zero, sub_self] at this
theorem IsPairing.zero_left (h : IsPairing tr ip) (a : V) : ip 0 a = 0 := by
  have := h.sub_left 0 0 a
  rwa [sub_zero, sub_self] at this
theorem IsPairing.neg_right (h : IsPairing tr ip) (a b : V) : ip a (-b) = -ip a b := by
  rw [← zero_sub, h.sub_right, h.zero_right, zero_sub]

theorem bfwd_l (st : Option (BFact R V)) (rows : List (BRow R V)) :
    (@bfwd R V (ringBlk inv tr) st rows).map (·.l) = rows.map (·.l) := by
  induction rows generalizing st with
  | nil => cases st <;> rfl
  | cons r rs ih => cases st <;> simp only [bfwd, List.map_cons, ih]

theorem bfwdT_none (p : BFact R V) (fs : List (BFact R V)) (g : List V) :
    @bfwdT R V (ringBlk inv tr) none fs g = @bfwdT R V (ringBlk inv tr) (some (p, 0)) fs g := by
  cases fs <;> cases g <;> simp [bfwdT, BlkOps.act, BlkOps.vsub]

/-- one step of the transposed back substitution: `λ_k = y_k − (L_{k+1} D_k⁻¹)ᵀ λ_{k+1}`, with `L_{k+1}` read off the next
fact.  At the last row there is neither: both `headD`s are `0` and the term vanishes, which spares `adj_fwd` the case split -/
theorem bbackT_cons (f : BFact R V) (fs : List (BFact R V)) (lam : V) (lams : List V) (hl : lams.length = fs.length) :
    @bbackT R V (ringBlk inv tr) (f :: fs) (lam :: lams)
      = (lam - tr ((fs.map (·.l)).headD 0 * f.dinv) • (@bbackT R V (ringBlk inv tr) fs lams).headD 0)
          :: @bbackT R V (ringBlk inv tr) fs lams := by
  match fs, lams, hl with
  | [], [], _ => simp [bbackT]
  | f' :: fs, l0 :: ls, hl =>
    have hne : @bbackT R V (ringBlk inv tr) (f' :: fs) (l0 :: ls) ≠ [] :=
      List.ne_nil_of_length_pos (by rw [@bbackT_length R V (ringBlk inv tr) _ _ hl]; exact Nat.succ_pos _)
    simp only [bbackT]
    cases hb : @bbackT R V (ringBlk inv tr) (f' :: fs) (l0 :: ls) with
    | nil => exact absurd hb hne
    | cons ln rest => simp [BlkOps.act, BlkOps.vsub, BlkOps.tr, BlkOps.mul]

/-- **adjoint of the back substitution**: it is the forward transposed sweep; a sweep continued after `(p, lp)` has taken
`⟨Uᵀ lp, x₀⟩` from its first unknown -/
theorem adj_back (h : IsPairing tr ip) (p : BFact R V) (lp : V) (fs : List (BFact R V)) (g : List V)
    (hg : g.length = fs.length) :
    ipSum ip g (@bback R V (ringBlk inv tr) fs) - ip (tr p.u • lp) ((@bback R V (ringBlk inv tr) fs).headD 0)
      = ipSum ip (@bfwdT R V (ringBlk inv tr) (some (p, lp)) fs g) (fs.map (·.b)) := by
  induction fs generalizing p lp g with
  | nil =>
    match g, hg with
    | [], _ => simp [bfwdT, bback, ipSum, h.zero_right]
  | cons f fs ih =>
    match g, hg with
    | g0 :: gs, hg =>
      rw [bback_cons]
      simp only [bfwdT, ipSum, List.map_cons, List.headD_cons, BlkOps.act, BlkOps.tr, BlkOps.vsub]
      rw [← ih f _ gs (by simpa using hg), h.adj f.dinv, h.adj f.u, h.adj f.dinv]
      simp only [smul_sub, h.sub_left, h.sub_right]
      abel

/-- **adjoint of the forward elimination** (of the right-hand sides): it is the backward transposed sweep; a sweep
continued after the fact `p` has taken `⟨(L D⁻¹)ᵀ λ₀, b_p⟩` from the previous right-hand side -/
theorem adj_fwd (h : IsPairing tr ip) (p : BFact R V) (rows : List (BRow R V)) (y : List V) (hy : y.length = rows.length) :
    ipSum ip y ((@bfwd R V (ringBlk inv tr) (some p) rows).map (·.b))
      = ipSum ip (@bbackT R V (ringBlk inv tr) (@bfwd R V (ringBlk inv tr) (some p) rows) y) (rows.map (·.b))
        - ip (tr ((rows.map (·.l)).headD 0 * p.dinv)
            • (@bbackT R V (ringBlk inv tr) (@bfwd R V (ringBlk inv tr) (some p) rows) y).headD 0) p.b := by
  induction rows generalizing p y with
  | nil => simp [bfwd, bbackT, ipSum, h.zero_left]
  | cons r rs ih =>
    match y, hy with
    | y0 :: ys, hy =>
      have hys : ys.length = rs.length := by simpa using hy
      obtain ⟨f, hf, hfb⟩ : ∃ f : BFact R V, @bfwd R V (ringBlk inv tr) (some p) (r :: rs)
          = f :: @bfwd R V (ringBlk inv tr) (some f) rs ∧ f.b = r.b - r.l • (p.dinv • p.b) := ⟨_, rfl, rfl⟩
      rw [hf, bbackT_cons inv _ _ y0 ys (by simp [hys]), bfwd_l]
      simp only [ipSum, List.map_cons, List.headD_cons]
      rw [ih f ys hys, hfb, h.adj (r.l * p.dinv), mul_smul]
      simp only [h.sub_left, h.sub_right]
      abel

/-- **the transposed solve is the adjoint of the solve**: for every solution `xs` of `A x = b` and every `g`,
`Σ ⟨g_k, x_k⟩ = Σ ⟨(A⁻ᵀ g)_k, b_k⟩` with `A⁻ᵀ g` computed by the code's transposed sweeps -/
theorem bsolveT_adjoint (h : IsPairing tr ip) (rows : List (BRow R V)) (hp : BPivOK2 inv none rows)
    (xs g : List V) (hx : BSolves 0 rows xs) (hg : g.length = rows.length) :
    ipSum ip g xs = ipSum ip (@bsolveT R V (ringBlk inv tr) (@bfwd R V (ringBlk inv tr) none rows) g) (rows.map (·.b)) := by
  simp only [bthomas_unique inv tr rows hp xs hx, bthomas, bsolveT, bfwdT_none inv fact0, bfwd_none]
  have h1 := adj_back inv h fact0 0 (@bfwd R V (ringBlk inv tr) (some fact0) rows) g (by simp [hg])
  have h2 := adj_fwd inv h fact0 rows (@bfwdT R V (ringBlk inv tr) (some (fact0, 0)) (@bfwd R V (ringBlk inv tr) (some fact0) rows) g)
    (by simp [hg])
  rw [smul_zero, h.zero_left, sub_zero] at h1
  rw [show (fact0 : BFact R V).b = 0 from rfl, h.zero_right, sub_zero] at h2
  rw [h1, h2]

end adjoint

/-! ## maps that commute with the block operations commute with the sweeps -/
section hom
variable {R V R' V' : Type} [BlkOps R V] [BlkOps R' V']

structure BlkHom (f : R → R') (g : V → V') : Prop where
  mul : ∀ a b, f (BlkOps.mul V a b) = BlkOps.mul V' (f a) (f b)
  sub : ∀ a b, f (BlkOps.sub V a b) = BlkOps.sub V' (f a) (f b)
  inv : ∀ a, f (BlkOps.inv V a) = BlkOps.inv V' (f a)
  act : ∀ a v, g (BlkOps.act a v) = BlkOps.act (f a) (g v)
  vsub : ∀ v w, g (BlkOps.vsub R v w) = BlkOps.vsub R' (g v) (g w)

def BRow.map (f : R → R') (g : V → V') (r : BRow R V) : BRow R' V' := ⟨f r.l, f r.d, f r.u, g r.b⟩
def BFact.map (f : R → R') (g : V → V') (r : BFact R V) : BFact R' V' := ⟨f r.dinv, f r.u, f r.l, g r.b⟩

variable {f : R → R'} {g : V → V'}

theorem bfwd_map (h : BlkHom f g) (st : Option (BFact R V)) (rows : List (BRow R V)) :
    (bfwd st rows).map (BFact.map f g) = bfwd (st.map (BFact.map f g)) (rows.map (BRow.map f g)) := by
  induction rows generalizing st with
  | nil => cases st <;> rfl
  | cons r rs ih =>
    cases st <;> simp [bfwd, ih, BFact.map, BRow.map, h.mul, h.sub, h.inv, h.act, h.vsub]

theorem bback_map (h : BlkHom f g) (fs : List (BFact R V)) :
    (bback fs).map g = bback (fs.map (BFact.map f g)) := by
  induction fs with
  | nil => rfl
  | cons p rest ih =>
    simp only [bback, List.map_cons, ← ih]
    cases bback rest <;> simp [BFact.map, h.act, h.vsub]

theorem bthomas_map (h : BlkHom f g) (rows : List (BRow R V)) :
    (bthomas rows).map g = bthomas (rows.map (BRow.map f g)) := by
  rw [bthomas, bback_map h, bfwd_map h]; rfl

end hom

section sys
variable {R V : Type} [Ring R] [AddCommGroup V] [Module R V]

/-- row-wise `L x_{i-1} + D x_i + U x_{i+1} = b` with `xp` left of the first unknown and `xn` right of the last -/
def BSolvesE : V → List (BRow R V) → List V → V → Prop
  | _, [], [], _ => True
  | xp, r :: rs, x :: xs, xn => r.l • xp + r.d • x + r.u • (xs.headD xn) = r.b ∧ BSolvesE x rs xs xn
  | _, _, _, _ => False

theorem bsolvesE_zero (xp : V) (rows : List (BRow R V)) (xs : List V) : BSolvesE xp rows xs 0 ↔ BSolves xp rows xs := by
  induction rows generalizing xp xs with
  | nil => cases xs <;> simp [BSolvesE, BSolves]
  | cons r rs ih => cases xs <;> simp [BSolvesE, BSolves, ih]

/-- the known value `xL` left of the first unknown, moved to the right-hand side -/
def dirL (xL : V) : List (BRow R V) → List (BRow R V)
  | [] => []
  | r :: rs => ⟨r.l, r.d, r.u, r.b - r.l • xL⟩ :: rs
/-- the known value `xR` right of the last unknown, moved to the right-hand side -/
def dirR (xR : V) : List (BRow R V) → List (BRow R V)
  | [] => []
  | [r] => [⟨r.l, r.d, r.u, r.b - r.u • xR⟩]
  | r :: r' :: rs => r :: dirR xR (r' :: rs)

@[simp] theorem dirL_length (x : V) (rows : List (BRow R V)) : (dirL x rows).length = rows.length := by cases rows <;> rfl
@[simp] theorem dirR_length (x : V) (rows : List (BRow R V)) : (dirR x rows).length = rows.length := by
  induction rows with
  | nil => rfl
  | cons r rs ih => cases rs <;> simp_all [dirR]

theorem bsolvesE_dirL (xL xn : V) (rows : List (BRow R V)) (xs : List V) :
    BSolvesE 0 (dirL xL rows) xs xn ↔ BSolvesE xL rows xs xn := by
  match rows, xs with
  | [], xs => cases xs <;> simp [dirL, BSolvesE]
  | r :: rs, [] => simp [dirL, BSolvesE]
  | r :: rs, x :: xs => simp [dirL, BSolvesE, eq_sub_iff_add_eq', add_assoc]

theorem bsolvesE_dirR (xp xR : V) (rows : List (BRow R V)) (xs : List V) :
    BSolvesE xp (dirR xR rows) xs 0 ↔ BSolvesE xp rows xs xR := by
  induction rows generalizing xp xs with
  | nil => cases xs <;> simp [dirR, BSolvesE]
  | cons r rs ih =>
    match rs, xs with
    | [], [] => simp [dirR, BSolvesE]
    | _ :: _, [] => simp [dirR, BSolvesE]
    | [], [x] => simp [dirR, BSolvesE, eq_sub_iff_add_eq]
    | [], x :: x' :: xs => simp [dirR, BSolvesE]
    | r' :: rs, x :: xs =>
      simp only [dirR, BSolvesE, ih]
      cases xs <;> simp [BSolvesE]

/-- **a block system with prescribed end values**: the sweeps are run on the rows with the end values moved to the
right-hand sides; that is the same as every row holding with its two neighbours in `xL :: xs ++ [xR]` -/
theorem bsolves_dirichlet (xL xR : V) (rows : List (BRow R V)) (xs : List V) :
    BSolves 0 (dirR xR (dirL xL rows)) xs ↔ BSolvesE xL rows xs xR := by
  rw [← bsolvesE_zero, bsolvesE_dirR, bsolvesE_dirL]

end sys
