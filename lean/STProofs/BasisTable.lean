import STProofs.ListSums
import Mathlib.Data.Nat.Factorial.Basic
/-!
# The optimizer's basis table in closed form

`computeBasisFunctions` is a literal table per order; entry `(m, k)` is `k (k-1) ⋯ (k-m+1) · t^(k-m)` (`basisRows_eq`).
The facts the proofs need about the table (its row lengths, its real and dual parts, its agreement with the
falling-factorial derivative tables of `PPolyND`, `Traj.basis_dRow_gen`) follow from this form.
-/
open ST
open scoped BigOperators

theorem basisRows_eq {R : Type} [DivRing R] (o : Order) (t : R) :
    basisRows o t = (List.range 6).map (fun m => (List.range o.coeffNum).map (fun k =>
      ((k.descFactorial m : Nat) : R) * t ^ (k - m))) := by
  cases o <;>
    simp only [basisRows, Order.coeffNum, List.range_succ, List.range_zero, List.nil_append, List.cons_append,
      List.map_cons, List.map_nil, Nat.descFactorial, lit_eq, pow_succ, pow_zero] <;> norm_num

theorem basisRow_eq {R : Type} [DivRing R] (o : Order) (t : R) (m : Nat) (hm : m ≤ 5) :
    (basisRows o t).getD m [] = (List.range o.coeffNum).map (fun k => ((k.descFactorial m : Nat) : R) * t ^ (k - m)) := by
  rw [basisRows_eq, getD_map_range, if_pos (by omega)]

namespace ST.Dual
variable {K : Type} [Field K]

theorem pow_re (t : Dual K) (p : Nat) : (t ^ p).re = t.re ^ p := by
  induction p with
  | zero => simp
  | succ p ih => rw [pow_succ, pow_succ, Dual.mul_re, ih]

theorem pow_du (t : Dual K) (p : Nat) : (t ^ p).du = p * t.re ^ (p - 1) * t.du := by
  induction p with
  | zero => simp
  | succ p ih =>
    rw [pow_succ, Dual.mul_du, ih, pow_re, Nat.add_sub_cancel]
    cases p with
    | zero => simp
    | succ p => rw [Nat.add_sub_cancel]; push_cast; ring

end ST.Dual

/-! ## the basis rows on dual numbers: row `m+1` is the derivative of row `m` -/
namespace QuadDual
variable {K : Type} [Field K]

theorem basis_len (o : Order) (t : K) (m : Nat) (hm : m ≤ 5) : ((basisRows o t).getD m []).length = o.coeffNum := by
  rw [basisRow_eq o t m hm, List.length_map, List.length_range]

theorem basis_re (o : Order) (t : Dual K) (m : Nat) :
    ((basisRows o t).getD m []).map Dual.re = (basisRows o t.re).getD m [] := by
  simp only [basisRows_eq, getD_map_range]
  split
  · rw [List.map_map]; exact List.map_congr_left (fun k _ => by simp [Dual.pow_re])
  · rfl

theorem basis_du (o : Order) (t : Dual K) (m : Nat) (hm : m ≤ 4) :
    ((basisRows o t).getD m []).map Dual.du = ((basisRows o t.re).getD (m + 1) []).map (· * t.du) := by
  rw [basisRow_eq o t m (by omega), basisRow_eq o t.re (m + 1) (by omega), List.map_map, List.map_map]
  refine List.map_congr_left (fun k _ => ?_)
  simp only [Function.comp, Dual.mul_du, Dual.natCast_re, Dual.natCast_du, Dual.pow_du, Nat.descFactorial_succ,
    Nat.cast_mul, Nat.sub_add_eq]
  ring

end QuadDual
