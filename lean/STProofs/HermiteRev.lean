import STProofs.HermiteSym
/-!
# C14 (quintic / septic): time reversal — every N, via uniqueness

Reversing the order of waypoints and durations, negating the odd boundary derivatives (velocity, jerk) and swapping start
and end yields the time-reversed trajectory: piece `i` of the new spline is `τ ↦ c_{N-1-i}(h − τ)`; the energy is unchanged.

Per order there are two computations: the Hermite closure of the mirrored data of a piece is the mirrored piece
(`closeSeg_rev`, read off the end jets `closeSeg_jets` / `closeSeg_end` / `closeSeg_start`), and the `k`-th derivative of
`τ ↦ c(h − τ)` is `(−1)ᵏ c⁽ᵏ⁾(h − τ)`, so a jump-free knot stays jump-free (`jump_rev`).  The rest is one argument for
both orders: closures reverse (`HS.closure_reverse`), chains reverse (`HS.jumpFree_reverse`), and the optimality system
has one solution.
-/
open ST

namespace QuinticRev
open ST.Quintic QuinticAdj QuinticK
variable {K : Type} [Field K] [LinearOrder K] [IsStrictOrderedRing K]

/-- coefficients of `τ ↦ c(h − τ)` -/
def revC (h : K) (c : C6 K) : C6 K :=
  ⟨q_ev c h, -(q_ev1 c h), q_ev2 c h / 2, -(q_ev3 c h / 6), q_ev4 c h / 24, -c.c5⟩

def flip (k : V2 K) : V2 K := ⟨-k.x, k.y⟩

/-- coefficients 0–2 of the mirrored piece are the end state of the piece (`quintic_closeSeg`), 3–4 its end jets; of the
closure of the mirrored data these are the start state (by definition) and the start jets (`closeSeg_jets` again) -/
theorem closeSeg_rev (h p0 p1 : K) (k0 k1 : V2 K) (hh : h ≠ 0) :
    closeSeg (⟨mkTP h, p1, p0 - p1⟩ : Seg K) (flip k1) (flip k0)
      = revC h (closeSeg (⟨mkTP h, p0, p1 - p0⟩ : Seg K) k0 k1) := by
  obtain ⟨-, -, -, a0, a1, a2⟩ := quintic_closeSeg h p0 (p1 - p0) k0 k1 hh
  rw [add_sub_cancel] at a0
  obtain ⟨⟨e4, e3⟩, -⟩ := closeSeg_jets h p0 (p1 - p0) k0 k1 hh
  obtain ⟨-, b4, b3⟩ := closeSeg_jets h p1 (p0 - p1) (flip k1) (flip k0) hh
  simp only [revC, a0, a1, a2, e4, e3]
  simp only [q_ev3, q_ev4, QuinticRev.flip] at b4 b3 ⊢
  apply C6.ext'
  · rfl
  · rfl
  · simp only [closeSeg, lit_eq]; push_cast; ring
  · linear_combination b3 / 6
  · linear_combination b4 / 24
  · simp only [closeSeg, mkTP_inv, lit_eq]; push_cast; field_simp; ring

theorem energySeg_rev (h : K) (c : C6 K) : energySeg h (revC h c) = energySeg h c := by
  simp only [energySeg, revC, q_ev, q_ev1, q_ev2, q_ev3, q_ev4, lit_eq]; ring

theorem q_ev34_revC (h t : K) (c : C6 K) :
    q_ev3 (revC h c) t = -(q_ev3 c (h - t)) ∧ q_ev4 (revC h c) t = q_ev4 c (h - t) := by
  simp only [revC, q_ev3, q_ev4]
  constructor <;> ring

theorem jump_rev (h h' : K) (c c' : C6 K) (e : (⟨q_ev4 c h, q_ev3 c h⟩ : V2 K) = ⟨q_ev4 c' 0, q_ev3 c' 0⟩) :
    (⟨q_ev4 (revC h' c') h', q_ev3 (revC h' c') h'⟩ : V2 K) = ⟨q_ev4 (revC h c) 0, q_ev3 (revC h c) 0⟩ := by
  obtain ⟨e4, e3⟩ := V2.mk.inj e
  simp only [q_ev34_revC, sub_self, sub_zero, e4, e3]

end QuinticRev

namespace SepticRev
open ST.Septic SepticAdj SepticK
variable {K : Type} [Field K] [LinearOrder K] [IsStrictOrderedRing K]

/-- coefficients of `τ ↦ c(h − τ)` -/
def revC (h : K) (c : C8 K) : C8 K :=
  ⟨s_ev c h, -(s_ev1 c h), s_ev2 c h / 2, -(s_ev3 c h / 6), s_ev4 c h / 24, -(s_ev5 c h / 120), s_ev6 c h / 720, -c.c7⟩

def flip (k : V3 K) : V3 K := ⟨-k.x, k.y, -k.z⟩

theorem closeSeg_rev (h p0 p1 : K) (k0 k1 : V3 K) (hh : h ≠ 0) :
    closeSeg (⟨mkTP h, p1, p0 - p1⟩ : Seg K) (flip k1) (flip k0)
      = revC h (closeSeg (⟨mkTP h, p0, p1 - p0⟩ : Seg K) k0 k1) := by
  obtain ⟨-, -, -, -, a0, a1, a2, a3⟩ := septic_closeSeg h p0 (p1 - p0) k0 k1 hh
  rw [add_sub_cancel] at a0
  obtain ⟨e4, e5, e6⟩ := closeSeg_end h p0 (p1 - p0) k0 k1 hh
  obtain ⟨b4, b5, b6⟩ := closeSeg_start (mkTP h) p1 (p0 - p1) (flip k1) (flip k0)
  simp only [revC, a0, a1, a2, a3, e4, e5, e6]
  simp only [s_ev4, s_ev5, s_ev6, SepticRev.flip] at b4 b5 b6 ⊢
  apply C8.ext'
  · rfl
  · rfl
  · simp only [closeSeg, lit_eq]; push_cast; ring
  · simp only [closeSeg, lit_eq]; push_cast; ring
  · linear_combination b4 / 24
  · linear_combination b5 / 120
  · linear_combination b6 / 720
  · simp only [closeSeg, lit_eq]; push_cast; ring

theorem energySeg_rev (h : K) (c : C8 K) : energySeg h (revC h c) = energySeg h c := by
  simp only [energySeg, revC, s_ev, s_ev1, s_ev2, s_ev3, s_ev4, s_ev5, s_ev6, lit_eq]; ring

theorem s_ev456_revC (h t : K) (c : C8 K) :
    s_ev4 (revC h c) t = s_ev4 c (h - t) ∧ s_ev5 (revC h c) t = -(s_ev5 c (h - t)) ∧
    s_ev6 (revC h c) t = s_ev6 c (h - t) := by
  simp only [revC, s_ev4, s_ev5, s_ev6]
  refine ⟨?_, ?_, ?_⟩ <;> ring

theorem jump_rev (h h' : K) (c c' : C8 K)
    (e : (⟨s_ev4 c h, s_ev5 c h, s_ev6 c h⟩ : V3 K) = ⟨s_ev4 c' 0, s_ev5 c' 0, s_ev6 c' 0⟩) :
    (⟨s_ev4 (revC h' c') h', s_ev5 (revC h' c') h', s_ev6 (revC h' c') h'⟩ : V3 K)
      = ⟨s_ev4 (revC h c) 0, s_ev5 (revC h c) 0, s_ev6 (revC h c) 0⟩ := by
  obtain ⟨e4, e5, e6⟩ := V3.mk.inj e
  simp only [s_ev456_revC, sub_self, sub_zero, e4, e5, e6]

end SepticRev

theorem List.zipWith_zipWith_self {α β γ δ : Type*} (g : α → γ → δ) (f : α → β → γ) (l : List α) (l' : List β) :
    List.zipWith g l (List.zipWith f l l') = List.zipWith (fun a b => g a (f a b)) l l' := by
  induction l generalizing l' with
  | nil => rfl
  | cons a l ih => cases l' <;> simp [ih]

namespace HS
variable {o : Deg} {K : Type} [Field K]

def revC (h : K) : C o K → C o K := match o with | .quintic => QuinticRev.revC h | .septic => SepticRev.revC h
def flipV : V o K → V o K := match o with | .quintic => QuinticRev.flip | .septic => SepticRev.flip

theorem closure_snoc (hs Ps : List K) (ks : List (V o K)) (h p q : K) (k k' : V o K) (hP : Ps.length = hs.length)
    (hk : ks.length = hs.length) :
    closure (mkSegs o (hs ++ [h]) (Ps ++ [p, q])) (ks ++ [k, k'])
      = closure (mkSegs o hs (Ps ++ [p])) (ks ++ [k]) ++ [closeSeg (Seg.mk (mkTP o h) p (q - p)) k k'] := by
  induction hs generalizing Ps ks with
  | nil =>
    match Ps, ks, hP, hk with
    | [], [], _, _ => simp [mkSegs_cons, mkSegs_nil, closure_cons, closure_nil]
  | cons a hs ih =>
    match hs, Ps, ks, hP, hk with
    | [], [p0], [k0], _, _ => simp [mkSegs_cons, mkSegs_nil, closure_cons, closure_nil]
    | a' :: hs, p0 :: p1 :: Ps, k0 :: k1 :: ks, hP, hk =>
      have := ih (p1 :: Ps) (k1 :: ks) (by simpa using hP) (by simpa using hk)
      simp only [List.cons_append, mkSegs_cons, closure_cons] at this ⊢
      rw [this]

variable [LinearOrder K] [IsStrictOrderedRing K]

theorem jump_rev (h h' : K) (c c' : C o K) (e : hi c h = hi c' 0) : hi (revC h' c') h' = hi (revC h c) 0 := by
  cases o; exacts [QuinticRev.jump_rev h h' c c' e, SepticRev.jump_rev h h' c c' e]

theorem jumpFree_reverse (hs : List K) (cs : List (C o K)) (hl : cs.length = hs.length) (h : JumpFree hs cs) :
    JumpFree hs.reverse (List.zipWith revC hs cs).reverse := by
  rw [jumpFree_iff_chain _ _ (by simp [hl]), List.zip_eq_zipWith, ← List.reverse_zipWith (by simp [hl]),
    List.isChain_reverse, List.zipWith_zipWith_self, ← List.map_uncurry_zip_eq_zipWith, List.isChain_map]
  exact ((jumpFree_iff_chain _ _ hl).mp h).imp fun a b => jump_rev a.1 b.1 a.2 b.2

theorem closeSeg_rev (h p0 p1 : K) (k0 k1 : V o K) (hh : h ≠ 0) :
    closeSeg (Seg.mk (mkTP o h) p1 (p0 - p1)) (flipV k1) (flipV k0) = revC h (closeSeg (Seg.mk (mkTP o h) p0 (p1 - p0)) k0 k1) := by
  cases o; exacts [QuinticRev.closeSeg_rev h p0 p1 k0 k1 hh, SepticRev.closeSeg_rev h p0 p1 k0 k1 hh]

theorem closure_reverse (hs Ps : List K) (ks : List (V o K)) (hne : ∀ h ∈ hs, h ≠ 0) (hP : Ps.length = hs.length + 1)
    (hk : ks.length = hs.length + 1) :
    closure (mkSegs o hs.reverse Ps.reverse) (ks.map flipV).reverse
      = (List.zipWith revC hs (closure (mkSegs o hs Ps) ks)).reverse := by
  induction hs generalizing Ps ks with
  | nil => simp [mkSegs_nil, closure_nil]
  | cons h hs ih =>
    match Ps, ks, hP, hk with
    | p0 :: p1 :: Ps, k0 :: k1 :: ks, hP, hk =>
      have ih' := ih (p1 :: Ps) (k1 :: ks) (fun x hx => hne x (by simp [hx])) (by simpa using hP) (by simpa using hk)
      simp only [List.reverse_cons, List.map_cons, List.append_assoc, List.cons_append, List.nil_append, mkSegs_cons,
        closure_cons, List.zipWith_cons_cons] at ih' ⊢
      rw [closure_snoc _ _ _ _ _ _ _ _ (by simpa using hP) (by simpa using hk), ih',
        closeSeg_rev h p0 p1 k0 k1 (hne h (by simp))]

/-- time reversal for both orders in one statement: the mirrored built spline is a closure of the mirrored data
(`closure_reverse`) with continuous high derivatives (`KKT`, `jumpFree_reverse`), hence the spline built from them (`unique`) -/
theorem build_reverse (hs Ps : List K) (bL bR : V o K) (hpos : ∀ h ∈ hs, 0 < h) (hne0 : hs ≠ [])
    (hP : Ps.length = hs.length + 1) :
    build o hs.reverse Ps.reverse (flipV bR) (flipV bL) = (List.zipWith revC hs (build o hs Ps bL bR)).reverse := by
  obtain ⟨N, hN⟩ : ∃ N, hs.length = N + 1 := Nat.exists_eq_succ_of_ne_zero (by simpa using hne0)
  have hcl := closure_reverse hs Ps (bL :: bthomas (rows bL bR (mkSegs o hs Ps)) ++ [bR])
    (fun h hh => (hpos h hh).ne') hP (by simp [hP, hN])
  rw [← build_eq, show ((bL :: bthomas (rows bL bR (mkSegs o hs Ps)) ++ [bR]).map flipV).reverse
    = flipV bR :: ((bthomas (rows bL bR (mkSegs o hs Ps))).map flipV).reverse ++ [flipV bL] by simp] at hcl
  exact unique _ _ _ _ _ _ (fun h hh => hpos h (List.mem_reverse.mp hh)) (by simp [hP]) (by simp [hP, hN]) hcl
    (jumpFree_reverse hs _ (build_length o hs Ps bL bR hP) (KKT hs Ps bL bR hpos hP))

end HS

namespace QuinticRev
open ST.Quintic QuinticAdj QuinticK
variable {K : Type} [Field K] [LinearOrder K] [IsStrictOrderedRing K]

/-- **C14: time reversal**: for waypoints and durations in reverse order and the boundary states swapped, velocities negated,
piece `i` of the built spline is `τ ↦ c_{N-1-i}(h_{N-1-i} − τ)` — every N ≥ 1, positive durations -/
theorem build_reverse (hs Ps : List K) (bL bR : V2 K) (hpos : ∀ h ∈ hs, 0 < h) (hne0 : hs ≠ [])
    (hP : Ps.length = hs.length + 1) :
    build hs.reverse Ps.reverse (flip bR) (flip bL) = (List.zipWith revC hs (build hs Ps bL bR)).reverse :=
  HS.build_reverse (o := .quintic) hs Ps bL bR hpos hne0 hP

end QuinticRev

namespace SepticRev
open ST.Septic SepticAdj SepticK
variable {K : Type} [Field K] [LinearOrder K] [IsStrictOrderedRing K]

/-- **C14: time reversal**: for waypoints and durations in reverse order and the boundary states swapped, velocities and jerks
negated, piece `i` of the built spline is `τ ↦ c_{N-1-i}(h_{N-1-i} − τ)` — every N ≥ 1, positive durations -/
theorem build_reverse (hs Ps : List K) (bL bR : V3 K) (hpos : ∀ h ∈ hs, 0 < h) (hne0 : hs ≠ [])
    (hP : Ps.length = hs.length + 1) :
    build hs.reverse Ps.reverse (flip bR) (flip bL) = (List.zipWith revC hs (build hs Ps bL bR)).reverse :=
  HS.build_reverse (o := .septic) hs Ps bL bR hpos hne0 hP

end SepticRev
