import STProofs.HermiteDual
import STProofs.ListSums
/-!
# `propagateGrad` of the quintic / septic spline is the exact adjoint of the construction map — every N
(under the hypothesis that no pivot determinant of the block elimination vanishes; `HermitePivots` discharges it
for positive durations)

The construction map is run on dual numbers.  Per piece, the upstream gradient paired with the tangent of the
coefficients is pulled back through the Hermite closure onto the tangents of waypoints, duration and the knot data of the
two ends (`seg1_identity`: what the first loop of the code accumulates).  The tangent of the interior knot data solves the
differentiated block system, so pairing it with the accumulated knot gradients equals pairing the adjoint variables
`λ = A⁻ᵀ g` — which the code's transposed sweeps compute from the cached factors — with the differentiated rows, less the
boundary corrections with the cached `L₀` / `U_last` (the adjoint method, `bsolvesE_adjoint` in `BlockDual`); per row that is
what the second loop accumulates (`block2_identity`); what `propagate` returns is exactly these sums (`propagate_pairing`).
The two per-order identities are the only places where the constants of the code enter: written in the inverse powers of
the duration they are polynomial identities, and one `ring` each pins every constant of both loops.
-/
open ST

namespace QuinticAdj
open ST.Quintic
variable {K : Type} [Field K] [CharZero K]

theorem mkTP_re (h : Dual K) : (⟨(mkTP h).h.re, (mkTP h).i1.re, (mkTP h).i2.re, (mkTP h).i3.re, (mkTP h).i4.re,
    (mkTP h).i5.re, (mkTP h).i6.re⟩ : TP K) = mkTP h.re := by
  simp only [mkTP]; dual_proj; simp only [lit_eq]

/-- upstream gradient of one piece paired with the dual parts of its coefficients -/
def gdot6 (g : C6 K) (c : C6 (Dual K)) : K :=
  g.c0 * c.c0.du + g.c1 * c.c1.du + g.c2 * c.c2.du + g.c3 * c.c3.du + g.c4 * c.c4.du + g.c5 * c.c5.du

/-- the quintic closure in closed form (as the septic one is written in the model): linear in the inverse powers, `h` itself
does not occur.  Over any `DivRing` — it is used at the dual numbers, where `2` has no inverse to cancel with, hence the
unreduced `lit 2 * (lit 1 / lit 2)` -/
theorem closeSeg_closed {R : Type} [DivRing R] (h p0 dp : R) (k0 k1 : V2 R) (hi : (mkTP h).i1 * h = 1) :
    closeSeg ⟨mkTP h, p0, dp⟩ k0 k1 = ⟨p0, k0.x, k0.y * (lit 1 / lit 2),
      lit 10 * (mkTP h).i3 * dp - lit 6 * (mkTP h).i2 * k0.x - lit 4 * (mkTP h).i2 * k1.x
        - (lit 2 + lit 2 * (lit 1 / lit 2)) * (mkTP h).i1 * (k0.y * (lit 1 / lit 2)) + lit 1 / lit 2 * (mkTP h).i1 * k1.y,
      (-(lit 15)) * (mkTP h).i4 * dp + lit 8 * (mkTP h).i3 * k0.x + lit 7 * (mkTP h).i3 * k1.x
        + lit 3 * (mkTP h).i2 * (k0.y * (lit 1 / lit 2)) - (mkTP h).i2 * k1.y,
      lit 6 * (mkTP h).i5 * dp - lit 3 * (mkTP h).i4 * k0.x - lit 3 * (mkTP h).i4 * k1.x
        - lit 2 * (lit 1 / lit 2) * (mkTP h).i3 * (k0.y * (lit 1 / lit 2)) + lit 1 / lit 2 * (mkTP h).i3 * k1.y⟩ := by
  simp only [closeSeg, mkTP, lit_eq, C6.mk.injEq, true_and] at hi ⊢
  push_cast at hi ⊢
  generalize (1 : R) / h = i at hi ⊢
  generalize ((1 : R) / 2) = hf
  refine ⟨?_, ?_, ?_⟩
  · linear_combination (-10 * k0.x * i ^ 2 - 10 * (k0.y * hf) * i * (i * h + 1) + 8 * (k0.y * hf) * i) * hi
  · linear_combination (15 * k0.x * i ^ 3 + 15 * (k0.y * hf) * i ^ 2 * (i * h + 1) - 14 * (k0.y * hf) * i ^ 2) * hi
  · linear_combination (-6 * k0.x * i ^ 4 - 6 * (k0.y * hf) * i ^ 3 * (i * h + 1) + 6 * (k0.y * hf) * i ^ 3) * hi

/-- **first loop, one segment**: the pull-back of one piece through the Hermite closure -/
theorem seg1_identity (h p0 p1 : Dual K) (k0 k1 : V2 (Dual K)) (g : C6 K) (hh : h.re ≠ 0) :
    let s : Seg (Dual K) := ⟨mkTP h, p0, p1 - p0⟩
    let sr : Seg K := ⟨mkTP h.re, p0.re, p1.re - p0.re⟩
    let out := seg1 sr g (V2re k0) (V2re k1)
    gdot6 g (closeSeg s k0 k1)
      = out.1.1 * p0.du + out.1.2 * p1.du + out.2.2 * h.du + ip2 out.2.1.1 (V2du k0) + ip2 out.2.1.2 (V2du k1) := by
  intro s sr out
  have hi : (mkTP h).i1 * (mkTP h).h = 1 := by
    have := DivRing.div_mul (lit 1) h hh; simpa only [mkTP, lit_eq, Nat.cast_one] using this
  simp only [s, closeSeg_closed h p0 (p1 - p0) k0 k1 hi]
  simp only [sr, out, mkTP_dual h hh, mkTP_inv h.re]
  generalize 1 / h.re = i
  simp only [gdot6, seg1, ip2, V2re, V2du, litq, ipow]
  dual_proj
  simp only [lit_eq]
  push_cast
  ring

/-- **second loop, one block**: the adjoint variable of a knot paired with the derivative of that knot's block row -/
theorem block2_identity (hL hR pp pc pn : Dual K) (kp kc kn : V2 (Dual K)) (lam : V2 K) (h1 : hL.re ≠ 0) (h2 : hR.re ≠ 0) :
    let sL : Seg (Dual K) := ⟨mkTP hL, pp, pc - pp⟩
    let sR : Seg (Dual K) := ⟨mkTP hR, pc, pn - pc⟩
    let sLr : Seg K := ⟨mkTP hL.re, pp.re, pc.re - pp.re⟩
    let sRr : Seg K := ⟨mkTP hR.re, pc.re, pn.re - pc.re⟩
    let out := block2 sLr sRr (V2re kp) (V2re kc) (V2re kn) lam
    ip2 lam (V2du (blockRhs sL sR)
        - (M2du (blockL sL.tp) • V2re kp + M2du (blockD sL.tp sR.tp) • V2re kc + M2du (blockU sR.tp) • V2re kn))
      = out.1.1 * pp.du + out.1.2.1 * pc.du + out.1.2.2 * pn.du + out.2.1 * hL.du + out.2.2 * hR.du := by
  intro sL sR sLr sRr out
  -- blocks and second loop are polynomial in the inverse powers and never use `h` itself: nothing to cancel
  simp only [sL, sR, sLr, sRr, out, mkTP_dual hL h1, mkTP_dual hR h2, mkTP_inv hL.re, mkTP_inv hR.re]
  generalize 1 / hL.re = i
  generalize 1 / hR.re = j
  simp only [block2, blockRhs, blockL, blockD, blockU, ip2, V2re, V2du, M2du,
    V2.smul_def, V2.add_def, V2.sub_def, ipow]
  dual_proj
  simp only [lit_eq]
  push_cast
  ring

def gdotC6 : List (C6 K) → List (C6 (Dual K)) → K
  | g :: gs, c :: cs => gdot6 g c + gdotC6 gs cs
  | _, _ => 0

/-- pairing of per-segment (left-knot, right-knot) vector contributions with a knot list -/
def segPairV : List (V2 K × V2 K) → List (V2 K) → K
  | (l, r) :: rest, x :: y :: ys => ip2 l x + ip2 r y + segPairV rest (y :: ys)
  | _, _ => 0

end QuinticAdj

namespace SepticAdj
open ST.Septic
variable {K : Type} [Field K] [CharZero K]

theorem mkTP_re (h : Dual K) : (⟨(mkTP h).h.re, (mkTP h).i1.re, (mkTP h).i2.re, (mkTP h).i3.re, (mkTP h).i4.re,
    (mkTP h).i5.re, (mkTP h).i6.re, (mkTP h).i7.re⟩ : TP K) = mkTP h.re := by
  simp only [mkTP]; dual_proj; simp only [lit_eq]

/-- upstream gradient of one piece paired with the dual parts of its coefficients -/
def gdot8 (g : C8 K) (c : C8 (Dual K)) : K :=
  g.c0 * c.c0.du + g.c1 * c.c1.du + g.c2 * c.c2.du + g.c3 * c.c3.du + g.c4 * c.c4.du + g.c5 * c.c5.du
    + g.c6 * c.c6.du + g.c7 * c.c7.du

/-- **first loop, one segment**: the pull-back of one piece through the Hermite closure -/
theorem seg1_identity (h p0 p1 : Dual K) (k0 k1 : V3 (Dual K)) (g : C8 K) (hh : h.re ≠ 0) :
    let s : Seg (Dual K) := ⟨mkTP h, p0, p1 - p0⟩
    let sr : Seg K := ⟨mkTP h.re, p0.re, p1.re - p0.re⟩
    let out := seg1 sr g (V3re k0) (V3re k1)
    gdot8 g (closeSeg s k0 k1)
      = out.1.1 * p0.du + out.1.2 * p1.du + out.2.2 * h.du + ip3 out.2.1.1 (V3du k0) + ip3 out.2.1.2 (V3du k1) := by
  intro s sr out
  -- closure and first loop are polynomial in the inverse powers and never use `h` itself: nothing to cancel
  simp only [s, sr, out, mkTP_dual h hh, mkTP_inv h.re]
  generalize 1 / h.re = i
  simp only [gdot8, closeSeg, seg1, ip3, V3re, V3du, litq, ipow]
  dual_proj
  -- numerals have tangent `0`: `ring` is paid by the size of the term, so drop those summands first
  simp only [lit_eq, zero_mul, mul_zero, add_zero, zero_add, sub_zero, zero_div]
  push_cast
  ring

/-- **second loop, one block**: the adjoint variable of a knot paired with the derivative of that knot's block row -/
theorem block2_identity (hL hR pp pc pn : Dual K) (kp kc kn : V3 (Dual K)) (lam : V3 K) (h1 : hL.re ≠ 0) (h2 : hR.re ≠ 0) :
    let sL : Seg (Dual K) := ⟨mkTP hL, pp, pc - pp⟩
    let sR : Seg (Dual K) := ⟨mkTP hR, pc, pn - pc⟩
    let sLr : Seg K := ⟨mkTP hL.re, pp.re, pc.re - pp.re⟩
    let sRr : Seg K := ⟨mkTP hR.re, pc.re, pn.re - pc.re⟩
    let out := block2 sLr sRr (V3re kp) (V3re kc) (V3re kn) lam
    ip3 lam (V3du (blockRhs sL sR)
        - (M3du (blockL sL.tp) • V3re kp + M3du (blockD sL.tp sR.tp) • V3re kc + M3du (blockU sR.tp) • V3re kn))
      = out.1.1 * pp.du + out.1.2.1 * pc.du + out.1.2.2 * pn.du + out.2.1 * hL.du + out.2.2 * hR.du := by
  intro sL sR sLr sRr out
  simp only [sL, sR, sLr, sRr, out, mkTP_dual hL h1, mkTP_dual hR h2, mkTP_inv hL.re, mkTP_inv hR.re]
  generalize 1 / hL.re = i
  generalize 1 / hR.re = j
  simp only [block2, blockRhs, blockL, blockD, blockU, ip3, V3re, V3du, M3du,
    V3.smul_def, V3.add_def, V3.sub_def, ipow]
  dual_proj
  simp only [lit_eq]
  push_cast
  ring

def gdotC8 : List (C8 K) → List (C8 (Dual K)) → K
  | g :: gs, c :: cs => gdot8 g c + gdotC8 gs cs
  | _, _ => 0

/-- pairing of per-segment (left-knot, right-knot) vector contributions with a knot list -/
def segPairV : List (V3 K × V3 K) → List (V3 K) → K
  | (l, r) :: rest, x :: y :: ys => ip3 l x + ip3 r y + segPairV rest (y :: ys)
  | _, _ => 0

end SepticAdj

namespace HS
open QuinticAdj SepticAdj
variable {o : Deg} {K : Type} [Field K]

def gdot : C o K → C o (Dual K) → K := match o with | .quintic => gdot6 | .septic => gdot8
def gdotC : List (C o K) → List (C o (Dual K)) → K := match o with | .quintic => gdotC6 | .septic => gdotC8
def segPairV : List (V o K × V o K) → List (V o K) → K :=
  match o with | .quintic => QuinticAdj.segPairV | .septic => SepticAdj.segPairV

theorem gdotC_cons (g : C o K) (gs : List (C o K)) (c : C o (Dual K)) (cs : List (C o (Dual K))) :
    gdotC (g :: gs) (c :: cs) = gdot g c + gdotC gs cs := by cases o <;> rfl
theorem gdotC_nil (cs : List (C o (Dual K))) : gdotC ([] : List (C o K)) cs = 0 := by cases o <;> rfl
theorem segPairV_cons (p : V o K × V o K) (rest : List (V o K × V o K)) (x y : V o K) (ys : List (V o K)) :
    segPairV (p :: rest) (x :: y :: ys) = ip p.1 x + ip p.2 y + segPairV rest (y :: ys) := by cases o <;> rfl
theorem segPairV_nil (xs : List (V o K)) : segPairV ([] : List (V o K × V o K)) xs = 0 := by cases o <;> rfl

theorem _root_.ipSum_ends {V S : Type} [AddCommGroup V] [AddCommGroup S] (ip : V → V → S) (gd mid : List V) (x y : V)
    (h : gd.length = mid.length + 2) :
    ipSum ip gd (x :: mid ++ [y]) = ip (gd.headD 0) x + ipSum ip gd.tail.dropLast mid + ip (gd.getLastD 0) y := by
  conv_lhs => rw [gd.eq_head_mid_last (by omega) 0]
  rw [List.cons_append, List.cons_append, ipSum, ipSum_append _ _ _ _ (by simp [h])]
  simp only [ipSum, add_zero, add_assoc]

theorem ipSum_oaddV (lr : List (V o K × V o K)) (xs : List (V o K)) (hlen : xs.length = lr.length + 1) :
    ipSum ip (oaddV lr) xs = segPairV lr xs := by
  have aux : ∀ (c : V o K) (lr : List (V o K × V o K)) (xs : List (V o K)), xs.length = lr.length + 1 →
      ipSum ip (oaddVAux c lr) xs = ip c (xs.headD 0) + segPairV lr xs := by
    intro c lr
    induction lr generalizing c with
    | nil => intro xs h; match xs, h with
      | [x], _ => simp [oaddVAux_nil, segPairV_nil, ipSum]
    | cons p rest ih =>
      obtain ⟨l, r⟩ := p
      intro xs h; match xs, h with
      | x :: y :: ys, h =>
        simp only [oaddVAux_cons, ipSum, ih r (y :: ys) (by simpa using h), segPairV_cons, List.headD_cons, vadd_eq,
          pairing.add_left]
        ring
  rw [oaddV_eq, aux _ _ _ hlen, vzero_eq, pairing.zero_left, zero_add]

/-- **what `propagate` returns, paired with a tangent** of waypoints, durations and boundary states: the outputs of the two
loops paired segment-wise and block-wise, and the two boundary corrections with the cached `L₀` / `U_last` -/
theorem propagate_pairing {N : ℕ} (b : Built o K) (gs : List (C o K)) (gT dP dh : List K) (dL dR : V o K)
    (hsegs : b.segs.length = N + 1) (hknots : b.knots.length = N + 2) (hfacts : b.facts.length = N)
    (hg : gs.length = N + 1) (hgT : gT.length = N + 1) (hdP : dP.length = N + 2) (hdh : dh.length = N + 1) :
    let l1 := loop1 b.segs gs b.knots
    let gd := oaddV (l1.map (·.2.1))
    let lam := bsolveT b.facts gd.tail.dropLast
    let l2 := loop2 b.segs b.knots lam
    dot (propagate b gs).points dP + dot (zipAdd gT (propagate b gs).times) dh
        + ip (propagate b gs).start dL + ip (propagate b gs).fin dR
      = segPair (l1.map (·.1)) dP + dot (l1.map (·.2.2)) dh + dot gT dh
        + (segPair3 (l2.map (·.1)) dP + segPair (l2.map (·.2)) dh)
        + (ip (gd.headD 0) dL - ip (lam.headD 0) (((knotRows b.segs).map (·.l)).headD 0 • dL))
        + (ip (gd.getLastD 0) dR - ip (lam.getLastD 0) (((knotRows b.segs).map (·.u)).getLastD 0 • dR)) := by
  intro l1 gd lam l2
  have hl1len : l1.length = N + 1 := by
    rw [loop1_length _ _ _ (by rw [hg, hsegs]) (by rw [hknots, hsegs]), hsegs]
  have hlamlen : lam.length = N := by rw [bsolveT_length _ _ (by simp [gd, hl1len, hfacts]), hfacts]
  have hl2len : l2.length = N := by
    rw [loop2_length _ _ _ (by rw [hsegs, hlamlen]) (by rw [hknots, hlamlen]), hlamlen]
  rw [show (propagate b gs).points = zipAdd (oadd (l1.map (·.1))) (oadd3 (l2.map (·.1))) from propagate_points b gs,
    show (propagate b gs).times = zipAdd (l1.map (·.2.2)) (oadd (l2.map (·.2))) from propagate_times b gs,
    dot_zipAdd _ _ _ (by simp [hl1len, hl2len]),
    dot_oadd _ _ (by simp [hl1len, hdP]), dot_oadd3 _ _ (by simp [hl2len, hdP]),
    dot_zipAdd gT _ _ (by simp [hgT, hl1len, hl2len]),
    dot_zipAdd _ _ _ (by simp [hl1len, hl2len]), dot_oadd _ _ (by simp [hl2len, hdh])]
  have hpair : ∀ (g : V o K) (m : R o K) (l d : V o K), ip (vsub g (actT m l)) d = ip g d - ip l (m • d) := by
    intro g m l d
    rw [vsub_eq, actT_eq, pairing.sub_left, pairing.adj]
  rcases hcase : b.segs with _ | ⟨s0, _ | ⟨s1, rest⟩⟩
  · simp [hcase] at hsegs
  · have hN0 : N = 0 := by simpa [hcase] using hsegs
    obtain ⟨hst, hfi⟩ := propagate_ends_single b gs s0 hcase
    rw [show (propagate b gs).start = gd.headD 0 by simpa only [vzero_eq] using hst,
      show (propagate b gs).fin = gd.getLastD 0 by simpa only [vzero_eq] using hfi,
      show lam = [] from List.eq_nil_of_length_eq_zero (by rw [hlamlen, hN0])]
    simp only [knotRows, List.map_nil, List.headD_nil, List.getLastD_nil, zero_smul, pairing.zero_right, sub_zero]
    ring
  · obtain ⟨hst, hfi⟩ := propagate_ends_multi b gs s0 s1 rest hcase
    rw [show (propagate b gs).start = vsub (gd.headD 0) (actT (blockL s0.tp) (lam.headD 0)) by
        simpa only [vzero_eq] using hst,
      show (propagate b gs).fin = vsub (gd.getLastD 0) (actT (endU s0 (s1 :: rest)) (lam.getLastD 0)) by
        simpa only [vzero_eq] using hfi, hpair, hpair, knotRows_last_u]
    simp only [knotRows, List.map_cons, List.headD_cons]
    ring

/-- the dual pivots are invertible as soon as the real pivot determinants do not vanish: a dual number is a unit iff its real
part is non-zero, and the real part of the sweep is the sweep of the real parts -/
theorem pivOK_dual (st : Option (BFact (R o (Dual K)) (V o (Dual K)))) (rowsD : List (BRow (R o (Dual K)) (V o (Dual K))))
    (h : DetOK (st.map (BFact.map reR reV)) (rowsD.map (BRow.map reR reV))) : BPivOK inv st rowsD := by
  induction rowsD generalizing st with
  | nil => cases st <;> trivial
  | cons r rs ih =>
    cases st with
    | none =>
      rw [Option.map_none, List.map_cons, detOK_none] at h
      refine ⟨mul_inv _ ?_, ih _ ?_⟩
      · show (det r.d).re ≠ 0
        rw [det_re]; exact h.1
      · simpa [BFact.map, BRow.map, inv_re] using h.2
    | some p =>
      rw [Option.map_some, List.map_cons, detOK_some] at h
      refine ⟨mul_inv _ ?_, ih _ ?_⟩
      · show (det (r.d - r.l * (p.dinv * p.u))).re ≠ 0
        rw [det_re, sub_re, mul_re, mul_re]; exact h.1
      · simpa [BFact.map, BRow.map, inv_re, sub_re, mul_re, dualLaws.sub_re, dualLaws.smul_re] using h.2

variable [CharZero K]

theorem seg1_identity (h p0 p1 : Dual K) (k0 k1 : V o (Dual K)) (g : C o K) (hh : h.re ≠ 0) :
    let out := seg1 (Seg.mk (mkTP o h.re) p0.re (p1.re - p0.re)) g (reV k0) (reV k1)
    gdot g (closeSeg (Seg.mk (mkTP o h) p0 (p1 - p0)) k0 k1)
      = out.1.1 * p0.du + out.1.2 * p1.du + out.2.2 * h.du + ip out.2.1.1 (duV k0) + ip out.2.1.2 (duV k1) := by
  -- `(e :)`: elaborated on its own before it meets the goal, which is cheaper to unify with
  cases o; exacts [(QuinticAdj.seg1_identity h p0 p1 k0 k1 g hh :), (SepticAdj.seg1_identity h p0 p1 k0 k1 g hh :)]

theorem block2_identity (hL hR pp pc pn : Dual K) (kp kc kn : V o (Dual K)) (lam : V o K) (h1 : hL.re ≠ 0) (h2 : hR.re ≠ 0) :
    let out := block2 (Seg.mk (mkTP o hL.re) pp.re (pc.re - pp.re)) (Seg.mk (mkTP o hR.re) pc.re (pn.re - pc.re))
      (reV kp) (reV kc) (reV kn) lam
    ip lam (duV (blockRhs (Seg.mk (mkTP o hL) pp (pc - pp)) (Seg.mk (mkTP o hR) pc (pn - pc)))
        - (duR (blockL (mkTP o hL)) • reV kp + duR (blockD (mkTP o hL) (mkTP o hR)) • reV kc + duR (blockU (mkTP o hR)) • reV kn))
      = out.1.1 * pp.du + out.1.2.1 * pc.du + out.1.2.2 * pn.du + out.2.1 * hL.du + out.2.2 * hR.du := by
  cases o
  exacts [(QuinticAdj.block2_identity hL hR pp pc pn kp kc kn lam h1 h2 :),
    (SepticAdj.block2_identity hL hR pp pc pn kp kc kn lam h1 h2 :)]

/-- **first loop summed over the spline**, for the closure of *any* knot data `ks` -/
theorem loop1_sum (hs Ps : List (Dual K)) (ks : List (V o (Dual K))) (gs : List (C o K))
    (hP : Ps.length = hs.length + 1) (hk : ks.length = hs.length + 1) (hg : gs.length = hs.length)
    (hne : ∀ h ∈ hs, h.re ≠ 0) :
    let l1 := loop1 (mkSegs o (hs.map Dual.re) (Ps.map Dual.re)) gs (ks.map reV)
    gdotC gs (closure (mkSegs o hs Ps) ks)
      = segPair (l1.map (·.1)) (Ps.map Dual.du) + dot (l1.map (·.2.2)) (hs.map Dual.du) + segPairV (l1.map (·.2.1)) (ks.map duV) := by
  induction hs generalizing Ps ks gs with
  | nil =>
    match gs, hg with
    | [], _ => simp [gdotC_nil, mkSegs_nil, loop1_nil, segPair, segPairV_nil]
  | cons h hs ih =>
    match Ps, ks, gs, hP, hk, hg with
    | p0 :: p1 :: Ps, k0 :: k1 :: ks, g :: gs, hP, hk, hg =>
      have ih' := ih (p1 :: Ps) (k1 :: ks) gs (by simpa using hP) (by simpa using hk) (by simpa using hg)
        (fun x hx => hne x (by simp [hx]))
      have sid := seg1_identity h p0 p1 k0 k1 g (hne h (by simp))
      simp only [List.map_cons, mkSegs_cons, closure_cons, gdotC_cons, loop1_cons, segPair, segPairV_cons, dot_cons] at ih' ⊢
      rw [ih', sid]
      ring

/-- **second loop summed over the blocks**: the adjoint variables paired with the differentiated knot rows -/
theorem loop2_sum (hs Ps : List (Dual K)) (kL kR : V o (Dual K)) (ks : List (V o (Dual K))) (lams : List (V o K))
    (hP : Ps.length = hs.length + 1) (hk : ks.length + 1 = hs.length) (hl : lams.length = ks.length)
    (hne : ∀ h ∈ hs, h.re ≠ 0) :
    let l2 := loop2 (mkSegs o (hs.map Dual.re) (Ps.map Dual.re)) ((kL :: ks ++ [kR]).map reV) lams
    ipSum ip lams (rhoE duR duV (reV kL) (knotRows (mkSegs o hs Ps)) (ks.map reV) (reV kR))
      = segPair3 (l2.map (·.1)) (Ps.map Dual.du) + segPair (l2.map (·.2)) (hs.map Dual.du) := by
  induction hs generalizing Ps kL ks lams with
  | nil => simp at hk
  | cons hL hs ih =>
    match Ps, hP with
    | p0 :: p1 :: Ps, hP =>
      match hs, ks, lams, hk, hl with
      | [], [], [], _, _ => simp [mkSegs_cons, mkSegs_nil, ipSum, loop2_nil, segPair3, segPair]
      | hR :: hs', kc :: ks', lam :: lams', hk, hl =>
        match Ps, hP with
        | p2 :: Ps', hP =>
          have ih' := ih (p1 :: p2 :: Ps') kc ks' lams' (by simpa using hP) (by simpa using hk) (by simpa using hl)
            (fun x hx => hne x (by simp [hx]))
          have bid := block2_identity hL hR p0 p1 p2 kL kc (ks'.headD kR) lam (hne hL (by simp)) (hne hR (by simp))
          -- `rhoE` reads the right neighbour of the unknown `kc` as `ks'.headD kR` (as `BSolvesE` does)
          obtain ⟨rest, hrest⟩ : ∃ rest, ks' ++ [kR] = ks'.headD kR :: rest := by cases ks' <;> simp
          have hhd : (ks'.map reV).headD (reV kR) = reV (ks'.headD kR) := by cases ks' <;> rfl
          simp only [List.cons_append, hrest, List.map_cons, mkSegs_cons, knotRows, Seg.tp_mk, rhoE, ipSum, loop2_cons,
            segPair3, segPair, hhd] at ih' ⊢
          rw [ih', bid]
          ring

/-- **C05** under `DetOK`, for both orders in one statement (`quintic_adjoint`, `septic_adjoint`) -/
theorem adjoint (hs Ps : List (Dual K)) (bL bR : V o (Dual K)) (gs : List (C o K)) (gT : List K)
    (hne0 : hs ≠ []) (hne : ∀ h ∈ hs, h.re ≠ 0)
    (hP : Ps.length = hs.length + 1) (hg : gs.length = hs.length) (hgT : gT.length = hs.length)
    (hdet : DetOK none (rows (reV bL) (reV bR) (mkSegs o (hs.map Dual.re) (Ps.map Dual.re)))) :
    let b := buildFull o (hs.map Dual.re) (Ps.map Dual.re) (reV bL) (reV bR)
    let out := propagate b gs
    gdotC gs (build o hs Ps bL bR) + dot gT (hs.map Dual.du)
      = dot out.points (Ps.map Dual.du) + dot (zipAdd gT out.times) (hs.map Dual.du)
        + ip out.start (duV bL) + ip out.fin (duV bR) := by
  intro b out
  obtain ⟨N, hN⟩ : ∃ N, hs.length = N + 1 := Nat.exists_eq_succ_of_ne_zero (by simpa using hne0)
  set segsR := mkSegs o (hs.map Dual.re) (Ps.map Dual.re) with hsegsR
  have hsegsRlen : segsR.length = N + 1 := by simp [segsR, hP, hN]
  have hsegs : b.segs = segsR := buildFull_segs o _ _ _ _
  -- the knot data over the dual numbers; their real parts are what the real construction computes
  set inner := bthomas (rows bL bR (mkSegs o hs Ps)) with hinner
  have hinnerlen : inner.length = N := by simp [inner, hP, hN]
  have hknots : (bL :: inner ++ [bR]).map reV = b.knots := by
    simp only [b, buildFull_knots, List.map_cons, List.map_append, List.map_nil, inner, bthomas_re]
  have hknotslen : b.knots.length = N + 2 := by rw [← hknots]; simp [hinnerlen]
  have hfacts : b.facts = bfwd none (rows (reV bL) (reV bR) segsR) := buildFull_facts o _ _ _ _
  have hfactslen : b.facts.length = N := by rw [hfacts, bfwd_length, rows_length, hsegsRlen]; rfl
  -- first loop (`loop1_sum` at the dual knot data), restated in the knots `b.knots` of the real construction
  set l1 := loop1 segsR gs b.knots with hl1
  have hl1len : l1.length = N + 1 := by
    rw [hl1, loop1_length _ _ _ (by rw [hg, hsegsRlen, hN]) (by rw [hknotslen, hsegsRlen]), hsegsRlen]
  have hL1 := loop1_sum hs Ps (bL :: inner ++ [bR]) gs hP (by simp [hinnerlen, hN]) hg hne
  rw [hknots, ← hsegsR, ← hl1] at hL1
  rw [build_eq, ← hinner, hL1]
  -- the accumulated knot gradients, split into first / interior / last
  set gd := oaddV (l1.map (·.2.1)) with hgd
  have hgdlen : gd.length = N + 2 := by simp [gd, hl1len]
  rw [← ipSum_oaddV _ _ (by simp [hinnerlen, hl1len]), ← hgd, List.map_append, List.map_cons, List.map_cons, List.map_nil,
    ipSum_ends ip gd _ _ _ (by simp [hgdlen, hinnerlen])]
  set gmid := gd.tail.dropLast with hgmid
  have hgmidlen : gmid.length = N := by simp [gmid, hgdlen]
  -- the adjoint method: the tangent of the interior knot data, paired with the interior knot gradients, is the adjoint
  -- variables (what the code's transposed sweeps compute from the cached factors) paired with the differentiated knot rows
  have hsolD : BSolvesE bL (knotRows (mkSegs o hs Ps)) inner bR :=
    bthomas_solves _ _ _ (pivOK_dual none _ (by rw [Option.map_none, rows_re]; exact hdet))
  have hmat := rows_mat (reV bL) (reV bR) segsR
  rw [bsolvesE_adjoint inv dualLaws pairing bL bR _ inner hsolD _ (knotRows_re hs Ps ▸ hmat) (detOK_pivOK2 _ _ hdet) gmid
      (by simp [hgmidlen, hP, hN]) (by simp [hinnerlen, hP, hN]), ← blkOps_eq, ← hfacts, hmat.map_l, hmat.map_u]
  set lam := bsolveT b.facts gmid with hlam
  have hlamlen : lam.length = N := by rw [hlam, bsolveT_length _ _ (hgmidlen.trans hfactslen.symm), hfactslen]
  -- row by row that is the second loop; what `propagate` returns is exactly these sums
  rw [loop2_sum hs Ps bL bR inner lam hP (by rw [hinnerlen, hN]) (by rw [hlamlen, hinnerlen]) hne, hknots, ← hsegsR,
    propagate_pairing b gs gT _ _ _ _ (hsegs ▸ hsegsRlen) hknotslen hfactslen (hg.trans hN) (hgT.trans hN)
      (by simp [hP, hN]) (by simp [hN]), hsegs]
  ring

end HS

/-- **C05 (quintic), under `DetOK`: `propagateGrad` is the exact transpose-Jacobian product of the construction map.**
The data are dual numbers (value, tangent).  The upstream gradient `gs` (`partialGradByCoeffs`) paired with the tangent of the
built coefficients, plus `gT` (`partialGradByTimes`) paired with the tangent of the durations, is what `propagate` returns
on the real parts, paired with the tangents of waypoints, durations (`gT` included, as the code starts `gradByTimes` from it)
and both boundary states — every N ≥ 1, every duration vector with non-zero entries whose block pivots are non-singular,
every upstream gradient and every tangent.  `QuinticPiv.quintic_adjoint_pos` discharges `DetOK` for positive durations. -/
theorem QuinticAdj.quintic_adjoint {K : Type} [Field K] [CharZero K]
    (hs Ps : List (Dual K)) (bL bR : V2 (Dual K)) (gs : List (Quintic.C6 K)) (gT : List K)
    (hne0 : hs ≠ []) (hne : ∀ h ∈ hs, h.re ≠ 0)
    (hP : Ps.length = hs.length + 1) (hg : gs.length = hs.length) (hgT : gT.length = hs.length)
    (hdet : DetOK none (Quintic.rows (V2re bL) (V2re bR) (Quintic.mkSegs (hs.map Dual.re) (Ps.map Dual.re)))) :
    let b := Quintic.buildFull (hs.map Dual.re) (Ps.map Dual.re) (V2re bL) (V2re bR)
    let out := Quintic.propagate b gs
    gdotC6 gs (Quintic.build hs Ps bL bR) + dot gT (hs.map Dual.du)
      = dot out.points (Ps.map Dual.du) + dot (zipAdd gT out.times) (hs.map Dual.du)
        + ip2 out.start (V2du bL) + ip2 out.fin (V2du bR) :=
  HS.adjoint (o := .quintic) hs Ps bL bR gs gT hne0 hne hP hg hgT hdet

/-- **C05 (septic), under `DetOK`**: the statement of `QuinticAdj.quintic_adjoint` for `SepticSplineND`, with boundary states
(velocity, acceleration, jerk); `SepticPiv.septic_adjoint_pos` discharges `DetOK` for positive durations -/
theorem SepticAdj.septic_adjoint {K : Type} [Field K] [CharZero K]
    (hs Ps : List (Dual K)) (bL bR : V3 (Dual K)) (gs : List (Septic.C8 K)) (gT : List K)
    (hne0 : hs ≠ []) (hne : ∀ h ∈ hs, h.re ≠ 0)
    (hP : Ps.length = hs.length + 1) (hg : gs.length = hs.length) (hgT : gT.length = hs.length)
    (hdet : DetOK none (Septic.rows (V3re bL) (V3re bR) (Septic.mkSegs (hs.map Dual.re) (Ps.map Dual.re)))) :
    let b := Septic.buildFull (hs.map Dual.re) (Ps.map Dual.re) (V3re bL) (V3re bR)
    let out := Septic.propagate b gs
    gdotC8 gs (Septic.build hs Ps bL bR) + dot gT (hs.map Dual.du)
      = dot out.points (Ps.map Dual.du) + dot (zipAdd gT out.times) (hs.map Dual.du)
        + ip3 out.start (V3du bL) + ip3 out.fin (V3du bR) :=
  HS.adjoint (o := .septic) hs Ps bL bR gs gT hne0 hne hP hg hgT hdet
