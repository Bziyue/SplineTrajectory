import STProofs.PPolyLookup
/-!
# C03 — route independence: hinted = plain, batch = pointwise (every history of cached state)

* `evaluateHint_eq` : for strictly increasing breakpoints the hinted evaluation returns the same value as the plain one for
  *every* hint, and leaves the hint equal to the index of the piece used whenever `k < numCoeffs` (and untouched
  otherwise); both routes run the same `evalSegment` on the same object, so the cache state plays no part;
* `evaluateBatch_eq` : under the cache invariant (`CacheInv`, established by `init` and preserved by every operation) the
  batch overload returns exactly the list of pointwise evaluations, whatever cache state the earlier elements of the
  batch left behind.
-/
open ST

section
variable {K : Type} [Field K] [LinearOrder K] [FloorRing K]

/-- the value of the plain evaluation as a function of the *data* only -/
noncomputable def evalPure (p : PPoly K) (t : K) (k : Int) : Vec K :=
  if k ≥ (p.numCoeffs : Int) then vzero p.dim
  else evalSegPure p (p.findSegment t) (t - p.breakpoints.getD (p.findSegment t) (lit 0)) k

theorem evaluate_eq_pure (p : PPoly K) (h : CacheInv p) (t : K) (k : Int) : (p.evaluate t k).2 = evalPure p t k :=
  AnyNum.evaluate_eq_pure p h.any t k

theorem evaluate_sameData {p q : PPoly K} (hq : CacheInv q) (hpq : sameData p q) (t : K) (k : Int) :
    (q.evaluate t k).2 = evalPure p t k ∧ CacheInv (q.evaluate t k).1 ∧ sameData p (q.evaluate t k).1 :=
  (AnyNum.evaluate_sameData hq.any hpq t k).imp id (.imp .ofAny id)

theorem evalPure_nat (p : PPoly K) (t : K) (j : Nat) :
    evalPure p t (j : Int) = if p.numCoeffs ≤ j then vzero p.dim
      else PPoly.horner (t - p.breakpoints.getD (p.findSegment t) (lit 0))
        (((derivTable p).getD j []).getD (p.findSegment t) []) := by
  simp only [evalPure, evalSegPure, ge_iff_le, Nat.cast_le, Int.toNat_natCast, Bool.or_eq_true, decide_eq_true_eq,
    show ¬ ((j : Int) < 0) by omega, or_false]
  split <;> simp [*]

/-- **hinted = plain**, for every hint value -/
theorem evaluateHint_eq (p : PPoly K) (h : CacheInv p) (t : K) (hint k : Int) (hs : Sorted p.breakpoints)
    (hlen : p.breakpoints.length = p.numSegments + 1) (hn : 1 ≤ p.numSegments) :
    (p.evaluateHint t hint k).2.1 = (p.evaluate t k).2 ∧
    (p.evaluateHint t hint k).2.2 = (if k ≥ (p.numCoeffs : Int) then hint else (p.findSegment t : Int)) := by
  obtain ⟨h1, h2⟩ := findSegmentHint_eq p t hint hs hlen hn
  unfold PPoly.evaluateHint PPoly.evaluate
  split
  · exact ⟨rfl, rfl⟩
  · exact ⟨by rw [← h1], h2⟩

/-- **batch = pointwise** -/
theorem evaluateBatch_eq (p : PPoly K) (h : CacheInv p) (ts : List K) (k : Int) :
    (p.evaluateBatch ts k).2 = ts.map (fun t => (p.evaluate t k).2) :=
  AnyNum.evaluateBatch_eq p h.any ts k

end
