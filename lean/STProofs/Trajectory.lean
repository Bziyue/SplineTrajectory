import STProofs.PPolyDeriv
import STProofs.Structure
import STProofs.NDEnergy
import STProofs.TimeForms
import STProofs.CostDecomp
/-!
# C01 / C03 end to end: the trajectory object a spline publishes evaluates to the spline's own pieces

`SplineND.ppoly` (what `getTrajectory()` hands out: `initializePPoly` on the cumulative times and the stacked coefficient
blocks) evaluated at any time `t` is, coordinate by coordinate, the polynomial of the segment that contains `t` (the
prescribed index `specIdx`), evaluated at `t − t_i`.  With the per-piece interpolation theorems of C01 this gives: the
trajectory passes through waypoint `i` at knot time `i`.

Four facts are put together: the published object is `PPoly.fresh` on those data (`ppoly_eq`, an instance of
`PPoly.init_flatMap`); a well-formed object evaluates by Horner on the derivative rows of piece `specIdx` (`WF.evaluate`);
Horner on rows of D-vectors is Horner per coordinate (`horner_stack`); the falling-factorial rows are the derivatives the
model's `ev1, ev2, …` compute (`basis_dRow_gen`).  `colOf_interp` and `colOf_boundary` are where the three orders are told
apart.
-/
open ST
open scoped BigOperators

namespace Traj

/-! ### lists over a field: the scalar Horner scheme, derivative rows, rows of `D`-vectors -/
section
variable {K : Type} [Field K]

/-- scalar Horner scheme, lowest coefficient first -/
def hornerS (t : K) : List K → K
  | [] => 0
  | [c] => c
  | c :: rest => hornerS t rest * t + c

/-- coefficient list of the `k`-th derivative of a polynomial given by its coefficient list (falling-factorial factors, as the
derivative tables of `PPolyND` store them): `derivRow` on scalars, one coordinate of it on stacked rows (`derivRow_stack`) -/
def dRow (nc k : Nat) (l : List K) : List K :=
  (List.range (nc - k)).map (fun m => (lit (factorEntry (m + k) k) : K) * l.getD (m + k) (lit 0))

theorem hornerS_cons (t c : K) (l : List K) : hornerS t (c :: l) = hornerS t l * t + c := by
  cases l <;> simp [hornerS]

theorem hornerS_eq_sum (t : K) (l : List K) : hornerS t l = ∑ i ∈ Finset.range l.length, l.getD i 0 * t ^ i := by
  induction l with
  | nil => simp [hornerS]
  | cons c l ih =>
    rw [hornerS_cons, ih, List.length_cons, Finset.sum_range_succ', Finset.sum_mul]
    simp [pow_succ, mul_assoc]

theorem sum_range_shift (f : Nat → K) (n m : Nat) (h0 : ∀ k < m, f k = 0) :
    ∑ k ∈ Finset.range n, f k = ∑ q ∈ Finset.range (n - m), f (q + m) := by
  rcases Nat.le_total m n with h | h
  · rw [Finset.range_eq_Ico, ← Finset.sum_Ico_consecutive _ (Nat.zero_le m) h,
      Finset.sum_eq_zero (fun k hk => h0 k (Finset.mem_Ico.mp hk).2), zero_add, Finset.sum_Ico_eq_sum_range]
    simp [add_comm]
  · rw [Nat.sub_eq_zero_of_le h, Finset.sum_range_zero]
    exact Finset.sum_eq_zero (fun k hk => h0 k (by have := Finset.mem_range.mp hk; omega))

/-- **the two tables agree**: basis row `m` against any coefficient list is the Horner value of the `m`-th derivative list
built from the falling-factorial table -/
theorem basis_dRow_gen (o : Order) (t : K) (m : Nat) (hm : m ≤ 5) (l : List K) :
    dot ((basisRows o t).getD m []) l = hornerS t (dRow o.coeffNum m l) := by
  rw [basisRow_eq o t m hm, dot_map_range, hornerS_eq_sum,
    sum_range_shift _ _ m (fun k hk => by simp [Nat.descFactorial_of_lt hk])]
  simp only [dRow, List.length_map, List.length_range]
  apply Finset.sum_congr rfl
  intro q hq
  rw [getD_map_range, if_pos (Finset.mem_range.mp hq), factorEntry_eq_desc, Nat.add_sub_cancel]
  simp only [lit_eq, Nat.cast_zero]
  ring

theorem range_getD_eq {l : List K} {m : Nat} (h : l.length = m) : (List.range m).map (fun k => l.getD k (lit 0)) = l := by
  apply List.ext_getElem
  · simp [h]
  · intro i h1 h2
    simp only [List.getElem_map, List.getElem_range, List.getD_eq_getElem?_getD, List.getElem?_eq_getElem h2,
      Option.getD_some]

theorem dRow_zero (nc : Nat) (l : List K) (h : l.length = nc) : dRow nc 0 l = l := by
  simp only [dRow, Nat.sub_zero, Nat.add_zero, factorEntry_eq_desc, Nat.descFactorial_zero, lit_eq, Nat.cast_one, one_mul]
  exact range_getD_eq h

theorem vmulAdd_range (d : Nat) (f g : Nat → K) (t : K) :
    vmulAdd ((List.range d).map f) t ((List.range d).map g) = (List.range d).map (fun j => f j * t + g j) := by
  induction d generalizing f g with
  | zero => simp [vmulAdd]
  | succ d ih =>
    rw [List.range_succ_eq_map]
    simp only [List.map_cons, List.map_map, vmulAdd]
    rw [ih]
    rfl

/-- the derivative rows of stacked rows, coordinate by coordinate -/
theorem derivRow_stack (nc k d : Nat) (a : Nat → Nat → K) :
    derivRow nc k ((List.range nc).map (fun q => (List.range d).map (fun j => a j q)))
      = (List.range (nc - k)).map (fun m => (List.range d).map (fun j => (lit (factorEntry (m + k) k) : K) * a j (m + k))) := by
  refine List.map_congr_left fun m hm => ?_
  rw [getD_map_range, if_pos (by have := List.mem_range.mp hm; omega), vscale, List.map_map]
  rfl

/-- the block of segment `i`, as stacked rows of the columns' coefficients -/
theorem coeffs_getD (o : Order) (d : Nat) (hs : List K) (P : List (Vec K)) (t0 : K) (bc : BC K) (i : Nat) (hi : i < hs.length) :
    (buildND o d hs P t0 bc).coeffs.getD i []
      = (List.range o.coeffNum).map (fun q => (List.range d).map (fun j =>
          ((colOf o hs P bc j).coeffs.getD i []).getD q (lit 0))) := by
  rw [buildND_coeffs, getD_map_range, if_pos hi]

/-- per order: the Horner values of a piece's coefficient list and of its derivative lists are the model's `ev`, `ev1`, … -/
theorem horner_cubic (c : Cubic.C4 K) (t : K) :
    hornerS t c.toList = ev c t ∧ hornerS t (dRow 4 1 c.toList) = ev1 c t :=
  ⟨by simp only [Cubic.C4.toList, hornerS, ev]; ring,
    (basis_dRow_gen .cubic t 1 (by omega) _).symm.trans (basis_cubic c t).2.1⟩

variable [CharZero K]

theorem horner_quintic (c : Quintic.C6 K) (t : K) :
    hornerS t c.toList = q_ev c t ∧ hornerS t (dRow 6 1 c.toList) = q_ev1 c t ∧
    hornerS t (dRow 6 2 c.toList) = q_ev2 c t :=
  ⟨by simp only [Quintic.C6.toList, hornerS, q_ev]; ring,
    (basis_dRow_gen .quintic t 1 (by omega) _).symm.trans (basis_quintic c t).2.1,
    (basis_dRow_gen .quintic t 2 (by omega) _).symm.trans (basis_quintic c t).2.2.1⟩

theorem horner_septic (c : Septic.C8 K) (t : K) :
    hornerS t c.toList = s_ev c t ∧ hornerS t (dRow 8 1 c.toList) = s_ev1 c t ∧
    hornerS t (dRow 8 2 c.toList) = s_ev2 c t ∧ hornerS t (dRow 8 3 c.toList) = s_ev3 c t :=
  ⟨by simp only [Septic.C8.toList, hornerS, s_ev]; ring,
    (basis_dRow_gen .septic t 1 (by omega) _).symm.trans (basis_septic c t).2.1,
    (basis_dRow_gen .septic t 2 (by omega) _).symm.trans (basis_septic c t).2.2.1,
    (basis_dRow_gen .septic t 3 (by omega) _).symm.trans (basis_septic c t).2.2.2.1⟩

end

/-! ### the knot times: increasing, and which piece answers at a knot -/
section
variable {K : Type} [Field K]

theorem cum_getD_succ (t0 : K) (hs : List K) (i : Nat) (hi : i < hs.length) :
    (cumulative t0 hs).getD (i + 1) 0 = (cumulative t0 hs).getD i 0 + hs.getD i 0 := by
  induction hs generalizing t0 i with
  | nil => exact absurd hi (Nat.not_lt_zero _)
  | cons h hs ih =>
    cases i with
    | zero => cases hs <;> rfl
    | succ i => exact ih (t0 + h) i (Nat.lt_of_succ_lt_succ hi)

variable [LinearOrder K]

theorem specIdx_lt (t0 : K) (hs : List K) (hne : hs ≠ []) (t : K) : specIdx (cumulative t0 hs) t < hs.length :=
  (specIdx_le _ t).trans_lt (by rw [cumulative_length]; exact Nat.sub_lt_of_pos_le Nat.one_pos (List.length_pos_iff.mpr hne))

variable [IsStrictOrderedRing K]

theorem cumulative_sorted (t0 : K) (hs : List K) (hpos : ∀ h ∈ hs, 0 < h) : Sorted (cumulative t0 hs) := by
  -- together with: no knot time lies before the start
  suffices h : Sorted (cumulative t0 hs) ∧ ∀ b ∈ cumulative t0 hs, t0 ≤ b from h.1
  induction hs generalizing t0 with
  | nil => exact ⟨List.pairwise_singleton _ _, fun b hb => (List.mem_singleton.mp hb).ge⟩
  | cons h hs ih =>
    obtain ⟨s, ge⟩ := ih (t0 + h) (fun x hx => hpos x (List.mem_cons_of_mem _ hx))
    have lt : ∀ b ∈ cumulative (t0 + h) hs, t0 < b := fun b hb =>
      (lt_add_of_pos_right t0 (hpos h List.mem_cons_self)).trans_le (ge b hb)
    exact ⟨List.pairwise_cons.mpr ⟨lt, s⟩, List.forall_mem_cons.mpr ⟨le_rfl, fun b hb => (lt b hb).le⟩⟩

/-- a knot other than the last is answered by the piece that starts there -/
theorem specIdx_knot (t0 : K) (hs : List K) (hpos : ∀ h ∈ hs, 0 < h) (i : Nat) (hi : i < hs.length) :
    specIdx (cumulative t0 hs) ((cumulative t0 hs).getD i 0) = i := by
  rw [specIdx_getD (cumulative_sorted t0 hs hpos) (by rw [cumulative_length]; exact Nat.lt_succ_of_lt hi), cumulative_length]
  exact Nat.min_eq_left (Nat.le_sub_one_of_lt hi)

/-- the last knot is answered by the last piece, at its right end -/
theorem specIdx_last (t0 : K) (hs : List K) (hpos : ∀ h ∈ hs, 0 < h) (hne : hs ≠ []) :
    specIdx (cumulative t0 hs) ((cumulative t0 hs).getD hs.length 0) = hs.length - 1 ∧
    (cumulative t0 hs).getD hs.length 0 - (cumulative t0 hs).getD (hs.length - 1) 0 = hs.getD (hs.length - 1) 0 := by
  have h1 := List.length_pos_iff.mpr hne
  have hstep := cum_getD_succ t0 hs (hs.length - 1) (Nat.sub_lt h1 Nat.one_pos)
  rw [Nat.sub_add_cancel h1] at hstep
  rw [specIdx_getD (cumulative_sorted t0 hs hpos) (by rw [cumulative_length]; exact Nat.lt_succ_self _), cumulative_length,
    hstep, add_sub_cancel_left]
  exact ⟨Nat.min_eq_right (Nat.sub_le hs.length 1), rfl⟩

end

variable {K : Type} [Field K] [LinearOrder K] [IsStrictOrderedRing K] [FloorRing K]

/-! ### the published object -/

omit [IsStrictOrderedRing K] in
/-- Horner on stacked rows of `d`-vectors is Horner per coordinate (`a j k` is coordinate `j` of the row with index `k`) -/
theorem horner_stack (d : Nat) (t : K) {ι : Type} (l : List ι) (hl : l ≠ []) (a : Nat → ι → K) :
    PPoly.horner t (l.map fun k => (List.range d).map fun j => a j k) = (List.range d).map fun j => hornerS t (l.map (a j)) := by
  induction l with
  | nil => exact absurd rfl hl
  | cons k rest ih =>
    cases rest with
    | nil => rfl
    | cons k' rest =>
      show vmulAdd (PPoly.horner t ((k' :: rest).map _)) t _ = _
      rw [ih (List.cons_ne_nil _ _), vmulAdd_range]
      rfl

theorem coeffNum_pos (o : Order) : 1 ≤ o.coeffNum := by cases o <;> decide

theorem stack_length (n nc : Nat) (cols : List (List (List K))) : (stack n nc cols).length = n := by simp [stack]

/-- what `getTrajectory()` hands out: the cumulative times and the stacked coefficient blocks, installed -/
theorem ppoly_eq (o : Order) (d : Nat) (hs : List K) (P : List (Vec K)) (t0 : K) (bc : BC K) (hne : hs ≠ []) :
    (buildND o d hs P t0 bc).ppoly
      = PPoly.fresh d (some o.coeffNum) (cumulative t0 hs) (buildND o d hs P t0 bc).coeffs o.coeffNum := by
  have hblk : ∀ x ∈ (buildND o d hs P t0 bc).coeffs, (id x).length = o.coeffNum := by
    intro x hx
    obtain ⟨i, _, rfl⟩ := List.mem_map.mp hx
    simp
  have hcl : (buildND o d hs P t0 bc).coeffs.length = hs.length := stack_length _ _ _
  exact (PPoly.init_flatMap d _ (cumulative t0 hs) _ id o.coeffNum (by rw [cumulative_length, hcl])
    (by rwa [← List.length_pos_iff, hcl, List.length_pos_iff]) hblk
    (by intro o' ho'; cases ho'; exact ⟨coeffNum_pos o, le_rfl⟩)).trans (by rw [List.map_id]; rfl)

theorem pub_wf (o : Order) (d : Nat) (hs : List K) (P : List (Vec K)) (t0 : K) (bc : BC K) (hne : hs ≠ [])
    (hpos : ∀ h ∈ hs, 0 < h) :
    WF (PPoly.fresh d (some o.coeffNum) (cumulative t0 hs) (buildND o d hs P t0 bc).coeffs o.coeffNum) :=
  .of_fresh (cumulative_length t0 hs) (stack_length _ _ _) (List.length_pos_iff.mpr hne) (coeffNum_pos o)
    (fun _ ho => by cases ho; exact le_rfl) (cumulative_sorted t0 hs hpos)

/-- **derivative orders `k < coeffNum`**: coordinate `j` of `getTrajectory().evaluate(t, k)` is Horner on the `k`-th derivative
list (`dRow`) of the polynomial of the segment containing `t`, at local time `t − t_i` -/
theorem traj_eval_k (o : Order) (d : Nat) (hs : List K) (P : List (Vec K)) (t0 : K) (bc : BC K) (hne : hs ≠ [])
    (hpos : ∀ h ∈ hs, 0 < h) (hP : P.length = hs.length + 1) (t : K) (k : Nat) (hk : k < o.coeffNum) :
    ((buildND o d hs P t0 bc).ppoly.evaluate t (k : Int)).2 = (List.range d).map (fun j =>
      hornerS (t - (cumulative t0 hs).getD (specIdx (cumulative t0 hs) t) 0)
        (dRow o.coeffNum k ((colOf o hs P bc j).coeffs.getD (specIdx (cumulative t0 hs) t) []))) := by
  have hci : CacheInv (buildND o d hs P t0 bc).ppoly := init_inv _ _ _ _
  rw [ppoly_eq o d hs P t0 bc hne] at hci ⊢
  -- lookup and evaluation on the installed object; then the block is the stack of the columns' rows
  rw [(pub_wf o d hs P t0 bc hne hpos).evaluate_fresh hci, if_neg (not_le.mpr hk),
    coeffs_getD o d hs P t0 bc _ (specIdx_lt t0 hs hne t), derivRow_stack, horner_stack _ _ _ (mt List.range_eq_nil.mp (by omega))]
  rfl

/-- **the published trajectory evaluates to the spline's own pieces**: at any time `t`, coordinate `j` of
`getTrajectory().evaluate(t)` is the polynomial of the segment containing `t` (index `specIdx`), at local time `t − t_i` -/
theorem traj_eval (o : Order) (d : Nat) (hs : List K) (P : List (Vec K)) (t0 : K) (bc : BC K) (hne : hs ≠ [])
    (hpos : ∀ h ∈ hs, 0 < h) (hP : P.length = hs.length + 1) (t : K) :
    specIdx (cumulative t0 hs) t < hs.length ∧
    ((buildND o d hs P t0 bc).ppoly.evaluate t 0).2 = (List.range d).map (fun j =>
      hornerS (t - (cumulative t0 hs).getD (specIdx (cumulative t0 hs) t) 0)
        ((colOf o hs P bc j).coeffs.getD (specIdx (cumulative t0 hs) t) [])) := by
  have hidx := specIdx_lt t0 hs hne t
  refine ⟨hidx, ?_⟩
  have := traj_eval_k o d hs P t0 bc hne hpos hP t 0 (coeffNum_pos o)
  rw [Nat.cast_zero] at this
  rw [this]
  exact List.map_congr_left fun j _ => by rw [dRow_zero _ _ (colOf_row_length o hs P bc j hP hidx)]

/-! ### the pieces, per order -/

omit [LinearOrder K] [IsStrictOrderedRing K] [FloorRing K] in
/-- `CubicSpec`, read piece by piece -/
theorem cubicSpec_pieces (vn : K) (hs Ps : List K) (cs : List (Cubic.C4 K)) (h : CubicSpec vn hs Ps cs) (z : Cubic.C4 K) :
    (∀ i, i < hs.length → ev (cs.getD i z) 0 = Ps.getD i 0 ∧ ev (cs.getD i z) (hs.getD i 0) = Ps.getD (i + 1) 0) ∧
    ev1 (cs.getD (hs.length - 1) z) (hs.getD (hs.length - 1) 0) = vn := by
  induction hs generalizing Ps cs with
  | nil => exact (by simp only [CubicSpec] at h : False).elim
  | cons a hs ih =>
    cases hs with
    | nil =>
      match Ps, cs, h with
      | [p0, p1], [c], h =>
        exact ⟨fun i hi => by obtain rfl : i = 0 := Nat.lt_one_iff.mp hi
                              exact ⟨h.1, h.2.1⟩, h.2.2⟩
    | cons a' hs' =>
      match Ps, cs, h with
      | p0 :: p1 :: ps, c :: c' :: cs', h =>
        obtain ⟨e0, e1, _, _, hrest⟩ := h
        obtain ⟨ih1, ih2⟩ := ih (p1 :: ps) (c' :: cs') hrest
        refine ⟨fun i hi => ?_, ih2⟩
        cases i with
        | zero => exact ⟨e0, e1⟩
        | succ i => exact ih1 i (Nat.lt_of_succ_lt_succ hi)

omit [FloorRing K] in
/-- the pieces of a cubic spline: each interpolates its two waypoints, the first starts with the left boundary velocity, the
last ends with the right one -/
theorem cubic_pieces (v0 vn : K) (hs Ps : List K) (hpos : ∀ h ∈ hs, 0 < h) (hne : hs ≠ []) (hP : Ps.length = hs.length + 1)
    (z : Cubic.C4 K) :
    (∀ i, i < hs.length → ev ((Cubic.build hs Ps v0 vn).getD i z) 0 = Ps.getD i 0
        ∧ ev ((Cubic.build hs Ps v0 vn).getD i z) (hs.getD i 0) = Ps.getD (i + 1) 0)
    ∧ ev1 ((Cubic.build hs Ps v0 vn).getD 0 z) 0 = v0
    ∧ ev1 ((Cubic.build hs Ps v0 vn).getD (hs.length - 1) z) (hs.getD (hs.length - 1) 0) = vn := by
  obtain ⟨hspec, hfirst⟩ := cubic_build_spec v0 vn hs Ps ((posList_iff hs).mpr hpos) hne hP
  obtain ⟨pi, pn⟩ := cubicSpec_pieces vn hs Ps _ hspec z
  refine ⟨pi, ?_, pn⟩
  obtain ⟨c, cs', hb⟩ := List.exists_cons_of_length_pos (l := Cubic.build hs Ps v0 vn)
    ((Cubic.build_length_eq hs Ps v0 vn hP).symm ▸ List.length_pos_iff.mpr hne)
  rw [hb]
  exact hfirst c cs' hb

omit [IsStrictOrderedRing K] in
/-- the pieces of a quintic / septic spline: each interpolates its two waypoints, the first starts with the left boundary
state, the last ends with the right one -/
theorem build_pieces (o : HS.Deg) (hs Ps : List K) (bL bR : HS.V o K) (hpos : ∀ h ∈ hs, 0 < h) (hne : hs ≠ [])
    (hP : Ps.length = hs.length + 1) (z : HS.C o K) :
    (∀ i, i < hs.length → HS.ev ((HS.build o hs Ps bL bR).getD i z) 0 = Ps.getD i 0
        ∧ HS.ev ((HS.build o hs Ps bL bR).getD i z) (hs.getD i 0) = Ps.getD (i + 1) 0)
    ∧ HS.lo ((HS.build o hs Ps bL bR).getD 0 z) 0 = bL
    ∧ HS.lo ((HS.build o hs Ps bL bR).getD (hs.length - 1) z) (hs.getD (hs.length - 1) 0) = bR := by
  have h1 : 1 ≤ hs.length := List.length_pos_iff.mpr hne
  obtain ⟨hh, hfirst, hlast⟩ := HS.build_hermite hs Ps bL bR (fun h hh => (hpos h hh).ne') hP
  have piece := fun i hi => HS.hermite_piece hs Ps _ _ hh i hi z 0 bL
  -- of the `N + 1` knots the first is `bL`, the last `bR`
  rw [List.head?_eq_getElem?] at hfirst
  rw [List.getLast?_eq_getElem?, (HS.buildFull_lengths o hs Ps bL bR hne hP).2.2, Nat.add_sub_cancel] at hlast
  refine ⟨fun i hi => ⟨(piece i hi).1, (piece i hi).2.2.1⟩, ?_, ?_⟩
  · rw [(piece 0 h1).2.1, List.getD_eq_getElem?_getD, hfirst]; rfl
  · rw [(piece (hs.length - 1) (Nat.sub_lt h1 Nat.one_pos)).2.2.2, Nat.sub_add_cancel h1, List.getD_eq_getElem?_getD, hlast]; rfl

def bcStart (bc : BC K) : Nat → Vec K
  | 1 => bc.v0 | 2 => bc.a0 | _ => bc.j0
def bcEnd (bc : BC K) : Nat → Vec K
  | 1 => bc.vn | 2 => bc.an | _ => bc.jn

section
omit [LinearOrder K] [IsStrictOrderedRing K] [FloorRing K]

/-- row `i` of a column is the coefficient list of piece `i` of the 1-D spline of that coordinate -/
theorem colOf_cubic_getD (hs : List K) (P : List (Vec K)) (bc : BC K) (j : Nat) (hP : P.length = hs.length + 1)
    {i : Nat} (hi : i < hs.length) (z : Cubic.C4 K) :
    (colOf .cubic hs P bc j).coeffs.getD i []
      = ((Cubic.build hs (P.map fun r => getC r j) (getC bc.v0 j) (getC bc.vn j)).getD i z).toList :=
  getD_map_lt Cubic.C4.toList _ (((List.length_map _).symm.trans (colOf_shape .cubic hs P bc j hP).1).symm ▸ hi) z []

theorem colOf_quintic_getD (hs : List K) (P : List (Vec K)) (bc : BC K) (j : Nat) (hP : P.length = hs.length + 1)
    {i : Nat} (hi : i < hs.length) (z : Quintic.C6 K) :
    (colOf .quintic hs P bc j).coeffs.getD i [] = ((Quintic.build hs (P.map fun r => getC r j)
      ⟨getC bc.v0 j, getC bc.a0 j⟩ ⟨getC bc.vn j, getC bc.an j⟩).getD i z).toList :=
  getD_map_lt Quintic.C6.toList _ (((List.length_map _).symm.trans (colOf_shape .quintic hs P bc j hP).1).symm ▸ hi) z []

theorem colOf_septic_getD (hs : List K) (P : List (Vec K)) (bc : BC K) (j : Nat) (hP : P.length = hs.length + 1)
    {i : Nat} (hi : i < hs.length) (z : Septic.C8 K) :
    (colOf .septic hs P bc j).coeffs.getD i [] = ((Septic.build hs (P.map fun r => getC r j)
      ⟨getC bc.v0 j, getC bc.a0 j, getC bc.j0 j⟩ ⟨getC bc.vn j, getC bc.an j, getC bc.jn j⟩).getD i z).toList :=
  getD_map_lt Septic.C8.toList _ (((List.length_map _).symm.trans (colOf_shape .septic hs P bc j hP).1).symm ▸ hi) z []

end

/-- **one coordinate of the spline, in the terms of the published rows**: every piece interpolates its two waypoints -/
theorem colOf_interp (o : Order) (hs : List K) (P : List (Vec K)) (bc : BC K) (j : Nat) (hpos : ∀ h ∈ hs, 0 < h)
    (hne : hs ≠ []) (hP : P.length = hs.length + 1) (i : Nat) (hi : i < hs.length) :
    hornerS 0 ((colOf o hs P bc j).coeffs.getD i []) = (P.map (fun r => getC r j)).getD i 0 ∧
    hornerS (hs.getD i 0) ((colOf o hs P bc j).coeffs.getD i []) = (P.map (fun r => getC r j)).getD (i + 1) 0 := by
  have hPj : (P.map (fun r => getC r j)).length = hs.length + 1 := by rw [List.length_map, hP]
  cases o with
  | cubic =>
    rw [colOf_cubic_getD hs P bc j hP hi ⟨0, 0, 0, 0⟩, (horner_cubic _ _).1, (horner_cubic _ _).1]
    exact (cubic_pieces _ _ hs _ hpos hne hPj _).1 i hi
  | quintic =>
    rw [colOf_quintic_getD hs P bc j hP hi ⟨0, 0, 0, 0, 0, 0⟩, (horner_quintic _ _).1, (horner_quintic _ _).1]
    exact (build_pieces .quintic hs _ _ _ hpos hne hPj _).1 i hi
  | septic =>
    rw [colOf_septic_getD hs P bc j hP hi ⟨0, 0, 0, 0, 0, 0, 0, 0⟩, (horner_septic _ _).1, (horner_septic _ _).1]
    exact (build_pieces .septic hs _ _ _ hpos hne hPj _).1 i hi

/-- the first and last piece of every coordinate carry the boundary derivatives the order uses -/
theorem colOf_boundary (o : Order) (hs : List K) (P : List (Vec K)) (bc : BC K) (j : Nat) (hpos : ∀ h ∈ hs, 0 < h)
    (hne : hs ≠ []) (hP : P.length = hs.length + 1) (k : Nat) (hk1 : 1 ≤ k) (hk2 : 2 * k + 1 < o.coeffNum) :
    hornerS 0 (dRow o.coeffNum k ((colOf o hs P bc j).coeffs.getD 0 [])) = getC (bcStart bc k) j ∧
    hornerS (hs.getD (hs.length - 1) 0) (dRow o.coeffNum k ((colOf o hs P bc j).coeffs.getD (hs.length - 1) []))
      = getC (bcEnd bc k) j := by
  have hPj : (P.map (fun r => getC r j)).length = hs.length + 1 := by rw [List.length_map, hP]
  have h1 : 0 < hs.length := List.length_pos_iff.mpr hne
  have hm : hs.length - 1 < hs.length := Nat.sub_lt h1 Nat.one_pos
  cases o with
  | cubic =>
    obtain ⟨-, p0, pn⟩ := cubic_pieces (getC bc.v0 j) (getC bc.vn j) hs _ hpos hne hPj ⟨0, 0, 0, 0⟩
    obtain rfl : k = 1 := by simp only [Order.coeffNum] at hk2; omega
    rw [colOf_cubic_getD hs P bc j hP h1, colOf_cubic_getD hs P bc j hP hm]
    exact ⟨(horner_cubic _ _).2.trans p0, (horner_cubic _ _).2.trans pn⟩
  | quintic =>
    obtain ⟨-, p0, pn⟩ := build_pieces .quintic hs _ (⟨getC bc.v0 j, getC bc.a0 j⟩ : V2 K) ⟨getC bc.vn j, getC bc.an j⟩
      hpos hne hPj ⟨0, 0, 0, 0, 0, 0⟩
    obtain ⟨a1, a2⟩ := V2.mk.inj p0
    obtain ⟨b1, b2⟩ := V2.mk.inj pn
    rw [colOf_quintic_getD hs P bc j hP h1, colOf_quintic_getD hs P bc j hP hm]
    obtain rfl | rfl : k = 1 ∨ k = 2 := by simp only [Order.coeffNum] at hk2; omega
    · exact ⟨(horner_quintic _ _).2.1.trans a1, (horner_quintic _ _).2.1.trans b1⟩
    · exact ⟨(horner_quintic _ _).2.2.trans a2, (horner_quintic _ _).2.2.trans b2⟩
  | septic =>
    obtain ⟨-, p0, pn⟩ := build_pieces .septic hs _ (⟨getC bc.v0 j, getC bc.a0 j, getC bc.j0 j⟩ : V3 K)
      ⟨getC bc.vn j, getC bc.an j, getC bc.jn j⟩ hpos hne hPj ⟨0, 0, 0, 0, 0, 0, 0, 0⟩
    obtain ⟨a1, a2, a3⟩ := V3.mk.inj p0
    obtain ⟨b1, b2, b3⟩ := V3.mk.inj pn
    rw [colOf_septic_getD hs P bc j hP h1, colOf_septic_getD hs P bc j hP hm]
    obtain rfl | rfl | rfl : k = 1 ∨ k = 2 ∨ k = 3 := by simp only [Order.coeffNum] at hk2; omega
    · exact ⟨(horner_septic _ _).2.1.trans a1, (horner_septic _ _).2.1.trans b1⟩
    · exact ⟨(horner_septic _ _).2.2.1.trans a2, (horner_septic _ _).2.2.1.trans b2⟩
    · exact ⟨(horner_septic _ _).2.2.2.trans a3, (horner_septic _ _).2.2.2.trans b3⟩

/-- **C01, end to end**: the trajectory a spline publishes passes through waypoint `i` at knot time `i`, every
order, dimension, N ≥ 1 and all positive durations (a knot other than the last is answered by the segment that starts
there, the last knot by the last segment at its right end) -/
theorem traj_at_knot (o : Order) (d : Nat) (hs : List K) (P : List (Vec K)) (t0 : K) (bc : BC K) (hne : hs ≠ [])
    (hpos : ∀ h ∈ hs, 0 < h) (hP : P.length = hs.length + 1) (i : Nat) (hi : i ≤ hs.length) :
    ((buildND o d hs P t0 bc).ppoly.evaluate ((cumulative t0 hs).getD i 0) 0).2
      = (List.range d).map (fun j => getC (P.getD i []) j) := by
  have h1 : 1 ≤ hs.length := List.length_pos_iff.mpr hne
  rw [(traj_eval o d hs P t0 bc hne hpos hP _).2]
  refine List.map_congr_left fun j _ => ?_
  have piece := colOf_interp o hs P bc j hpos hne hP
  rw [getC_col]
  rcases hi.lt_or_eq with hlt | rfl
  · rw [specIdx_knot t0 hs hpos i hlt, sub_self, (piece i hlt).1]
  · obtain ⟨e1, e2⟩ := specIdx_last t0 hs hpos hne
    rw [e1, e2, (piece (hs.length - 1) (Nat.sub_lt h1 Nat.one_pos)).2, Nat.sub_add_cancel h1]

/-- **C01, boundary states end to end**: derivative `k` (1 … s−1) of the published trajectory at the first knot is the start
boundary state, at the last knot the end boundary state — every order, dimension, N ≥ 1, positive durations -/
theorem traj_boundary (o : Order) (d : Nat) (hs : List K) (P : List (Vec K)) (t0 : K) (bc : BC K) (hne : hs ≠ [])
    (hpos : ∀ h ∈ hs, 0 < h) (hP : P.length = hs.length + 1) (k : Nat) (hk1 : 1 ≤ k) (hk2 : 2 * k + 1 < o.coeffNum) :
    ((buildND o d hs P t0 bc).ppoly.evaluate ((cumulative t0 hs).getD 0 0) (k : Int)).2
      = (List.range d).map (fun j => getC (bcStart bc k) j) ∧
    ((buildND o d hs P t0 bc).ppoly.evaluate ((cumulative t0 hs).getD hs.length 0) (k : Int)).2
      = (List.range d).map (fun j => getC (bcEnd bc k) j) := by
  have h1 : 0 < hs.length := List.length_pos_iff.mpr hne
  have hk : k < o.coeffNum := by omega
  obtain ⟨e1, e2⟩ := specIdx_last t0 hs hpos hne
  rw [traj_eval_k o d hs P t0 bc hne hpos hP _ k hk, traj_eval_k o d hs P t0 bc hne hpos hP _ k hk,
    specIdx_knot t0 hs hpos 0 h1, sub_self, e1, e2]
  exact ⟨List.map_congr_left fun j _ => (colOf_boundary o hs P bc j hpos hne hP k hk1 hk2).1,
    List.map_congr_left fun j _ => (colOf_boundary o hs P bc j hpos hne hP k hk1 hk2).2⟩

end Traj
