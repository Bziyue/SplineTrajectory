import STModel
import Mathlib.Logic.Function.Basic
import Mathlib.Tactic.Linarith
/-!
# Copies of optimizers are independent deep copies (C15): an abstract heap model

Each optimizer object owns a default time map, a default spatial map and possibly a built-in workspace.  Its two
*active-map pointers* either designate its own default map (`own`), a user-supplied map that outlives the optimizer
(`user n`), or — the state the copy operations must never produce — a default map embedded in *another* optimizer
(`foreign o`).  Pointers are recorded relative to their holder, so the code's pointer comparison with the source's own
default map and the re-binding to the copy's (`rebind`) come out as "`own` stays `own`"; the workspace is copied by value.
-/

inductive MapPtr where
  | own
  | user (n : Nat)
  | foreign (o : Nat)
deriving DecidableEq, Repr

/-- what an optimizer holds (values are abstracted to `V`: the default map parameters, the configuration, …) -/
structure OptObjM (V W : Type) where
  cfg : V                 -- reference state, flags, weights, default-map parameters: all copied by value
  tm : MapPtr
  sm : MapPtr
  ws : Option W           -- built-in workspace (owned)

/-- heap: live optimizers by id -/
abbrev OHeap (V W : Type) := Nat → Option (OptObjM V W)

/-- the pointer re-binding of the copy constructor / assignment: `other.active == &other.default ? &default : other.active`.
Seen from the destination object `dst`, a pointer of the source `src` that designates `src`'s own default map is
re-bound to `own`; anything else is copied verbatim.  `MapPtr` is relative to the holder, so this is the identity on every
constructor (`rebind_id`); a copy that took the source's pointers verbatim would turn `own` into `foreign src`. -/
def rebind (p : MapPtr) : MapPtr :=
  match p with
  | .own => .own
  | .user n => .user n
  | .foreign o => .foreign o

inductive HOp (V W : Type) where
  | copy (src dst : Nat)                -- copy-construct `dst` from `src`
  | assign (src dst : Nat)              -- `dst = src` (self-assignment allowed)
  | setTimeMap (o : Nat) (m : Option Nat)     -- `none` = nullptr = back to the own default
  | setSpatialMap (o : Nat) (m : Option Nat)
  | mutate (o : Nat) (f : V → V)        -- any reconfiguration of the values
  | touchWs (o : Nat) (w : W)           -- an evaluation with the built-in workspace (creates / overwrites it)
  | destroy (o : Nat)

variable {V W : Type}

def hstep (h : OHeap V W) : HOp V W → OHeap V W
  | .copy src dst =>
      match h src with
      | some s => Function.update h dst (some ⟨s.cfg, rebind s.tm, rebind s.sm, s.ws⟩)
      | none => h
  | .assign src dst =>
      if src = dst then h
      else match h src, h dst with
        | some s, some _ => Function.update h dst (some ⟨s.cfg, rebind s.tm, rebind s.sm, s.ws⟩)
        | _, _ => h
  | .setTimeMap o m =>
      match h o with
      | some x => Function.update h o (some { x with tm := match m with | some n => .user n | none => .own })
      | none => h
  | .setSpatialMap o m =>
      match h o with
      | some x => Function.update h o (some { x with sm := match m with | some n => .user n | none => .own })
      | none => h
  | .mutate o f =>
      match h o with
      | some x => Function.update h o (some { x with cfg := f x.cfg })
      | none => h
  | .touchWs o w =>
      match h o with
      | some x => Function.update h o (some { x with ws := some w })
      | none => h
  | .destroy o => Function.update h o none

def notForeign : MapPtr → Prop
  | .foreign _ => False
  | _ => True

/-- **no dangling pointers**: every live optimizer's active maps are its own defaults or user-supplied maps -/
def NoForeign (h : OHeap V W) : Prop := ∀ o x, h o = some x → notForeign x.tm ∧ notForeign x.sm

theorem rebind_id (p : MapPtr) : rebind p = p := by cases p <;> rfl

theorem noForeign_update {h : OHeap V W} (inv : NoForeign h) (t : Nat) (v : Option (OptObjM V W))
    (hv : ∀ x, v = some x → notForeign x.tm ∧ notForeign x.sm) : NoForeign (Function.update h t v) := by
  intro o x hx
  by_cases hot : o = t
  · subst hot; exact hv x (by simpa using hx)
  · exact inv o x (by rwa [Function.update_of_ne hot] at hx)

theorem notForeign_ofOption (m : Option Nat) : notForeign (match m with | some n => .user n | none => .own) := by
  cases m <;> trivial

theorem hstep_noForeign (h : OHeap V W) (op : HOp V W) (inv : NoForeign h) : NoForeign (hstep h op) := by
  cases op with
  | copy src dst =>
    simp only [hstep, rebind_id]; split
    · next s hs => exact noForeign_update inv _ _ (by rintro x ⟨⟩; exact inv src s hs)
    · exact inv
  | assign src dst =>
    simp only [hstep, rebind_id]; split
    · exact inv
    · split
      · next s _ hs _ => exact noForeign_update inv _ _ (by rintro x ⟨⟩; exact inv src s hs)
      · exact inv
  | setTimeMap t m =>
    simp only [hstep]; split
    · next y ht => exact noForeign_update inv _ _ (by rintro x ⟨⟩; exact ⟨notForeign_ofOption m, (inv t y ht).2⟩)
    · exact inv
  | setSpatialMap t m =>
    simp only [hstep]; split
    · next y ht => exact noForeign_update inv _ _ (by rintro x ⟨⟩; exact ⟨(inv t y ht).1, notForeign_ofOption m⟩)
    · exact inv
  | mutate t f =>
    simp only [hstep]; split
    · next y ht => exact noForeign_update inv _ _ (by rintro x ⟨⟩; exact inv t y ht)
    · exact inv
  | touchWs t w =>
    simp only [hstep]; split
    · next y ht => exact noForeign_update inv _ _ (by rintro x ⟨⟩; exact inv t y ht)
    · exact inv
  | destroy t => exact noForeign_update inv _ _ (by simp)

def hrun (h : OHeap V W) : List (HOp V W) → OHeap V W
  | [] => h
  | op :: ops => hrun (hstep h op) ops

/-- after **any** history of copy / assignment (incl. self-assignment) / map changes / mutations / destructions, every
live optimizer only references its own default maps or user-supplied ones, never a map embedded in another optimizer
(which that optimizer's destruction would leave dangling) -/
theorem history_noForeign (h : OHeap V W) (ops : List (HOp V W)) (inv : NoForeign h) : NoForeign (hrun h ops) := by
  induction ops generalizing h with
  | nil => exact inv
  | cons op ops ih => exact ih _ (hstep_noForeign h op inv)

/-- the maps an optimizer evaluates with, given its own default-map value and the user maps -/
def resolve {M : Type} (ownDefault : M) (user : Nat → M) (foreign : Nat → M) : MapPtr → M
  | .own => ownDefault
  | .user n => user n
  | .foreign o => foreign o

/-- a copy evaluates identically to its source: same values, and the re-bound pointers resolve to maps with the same
parameters (its own default map was copied by value from the source's) -/
theorem copy_same_resolution {M : Type} (s : OptObjM V W) (dflt : V → M) (user : Nat → M) (foreign : Nat → M)
    (hs : notForeign s.tm) :
    resolve (dflt s.cfg) user foreign (rebind s.tm) = resolve (dflt s.cfg) user foreign s.tm := by
  rw [rebind_id]

/-- the object an operation writes -/
def HOp.target : HOp V W → Nat
  | .copy _ dst => dst
  | .assign _ dst => dst
  | .setTimeMap o _ => o
  | .setSpatialMap o _ => o
  | .mutate o _ => o
  | .touchWs o _ => o
  | .destroy o => o

/-- **frame**: an operation changes nothing but its target object — in particular mutating, re-mapping, evaluating
with or destroying the *source* after a copy leaves the copy exactly as it was, and vice versa -/
theorem hstep_frame (h : OHeap V W) (op : HOp V W) (d : Nat) (hd : d ≠ op.target) : hstep h op d = h d := by
  cases op <;> simp only [HOp.target] at hd <;> simp only [hstep]
  case assign src dst =>
    split
    · rfl
    · cases h src <;> cases h dst <;> simp [Function.update_of_ne hd]
  case destroy o => exact Function.update_of_ne hd _ _
  -- the other operations look at one object and write, if at all, to the target
  all_goals cases h _ <;> simp [Function.update_of_ne hd]

/-- a copy is unaffected by any later history of operations that do not target it -/
theorem copy_survives (h : OHeap V W) (d : Nat) (ops : List (HOp V W)) (hops : ∀ op ∈ ops, d ≠ op.target) :
    hrun h ops d = h d := by
  induction ops generalizing h with
  | nil => rfl
  | cons op ops ih =>
    simp only [hrun]
    rw [ih _ (fun o ho => hops o (by simp [ho])), hstep_frame h op d (hops op (by simp))]

/-- self-assignment is a no-op -/
theorem self_assign (h : OHeap V W) (o : Nat) : hstep h (.assign o o) = h := by simp [hstep]

/-- non-vacuity: a heap with one optimizer using a user time map -/
example : NoForeign (fun o => if o = 0 then some (⟨(), .user 1, .own, none⟩ : OptObjM Unit Unit) else none) := by
  intro o x hx
  simp only at hx
  split at hx
  · simp only [Option.some.injEq] at hx; subst hx; simp [notForeign]
  · simp at hx
