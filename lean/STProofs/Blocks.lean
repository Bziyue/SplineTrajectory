import STProofs.Alg
import STProofs.BlockThomas
/-!
# 2×2 and 3×3 blocks over a `DivRing` (a field, or the dual numbers over one)

Ring / module structure with the model's operations; the code's closed-form inverses (`Inverse2x2`, `Inverse3x3`) are
two-sided inverses whenever the determinant is a unit.
-/
open ST

attribute [ext] M2 V2 M3 V3

section m2
variable {K : Type} [DivRing K]
namespace ST.M2
instance : Add (M2 K) := ⟨fun a b => ⟨a.a00 + b.a00, a.a01 + b.a01, a.a10 + b.a10, a.a11 + b.a11⟩⟩
instance : Sub (M2 K) := ⟨M2.sub⟩
instance : Neg (M2 K) := ⟨fun a => ⟨-a.a00, -a.a01, -a.a10, -a.a11⟩⟩
instance : Zero (M2 K) := ⟨⟨0, 0, 0, 0⟩⟩
instance : One (M2 K) := ⟨⟨1, 0, 0, 1⟩⟩
instance : Mul (M2 K) := ⟨M2.mul⟩
instance : NatCast (M2 K) := ⟨fun n => ⟨n, 0, 0, n⟩⟩
instance : IntCast (M2 K) := ⟨fun n => ⟨n, 0, 0, n⟩⟩
theorem mul_def (a b : M2 K) : a * b = ⟨a.a00 * b.a00 + a.a01 * b.a10, a.a00 * b.a01 + a.a01 * b.a11,
    a.a10 * b.a00 + a.a11 * b.a10, a.a10 * b.a01 + a.a11 * b.a11⟩ := rfl
theorem add_def (a b : M2 K) : a + b = ⟨a.a00 + b.a00, a.a01 + b.a01, a.a10 + b.a10, a.a11 + b.a11⟩ := rfl
theorem sub_def (a b : M2 K) : a - b = ⟨a.a00 - b.a00, a.a01 - b.a01, a.a10 - b.a10, a.a11 - b.a11⟩ := rfl
theorem neg_def (a : M2 K) : -a = ⟨-a.a00, -a.a01, -a.a10, -a.a11⟩ := rfl
theorem zero_def : (0 : M2 K) = ⟨0, 0, 0, 0⟩ := rfl
theorem one_def : (1 : M2 K) = ⟨1, 0, 0, 1⟩ := rfl
theorem natCast_def (n : ℕ) : (n : M2 K) = ⟨n, 0, 0, n⟩ := rfl
theorem intCast_def (n : ℤ) : (n : M2 K) = ⟨n, 0, 0, n⟩ := rfl

/-- unfold the operations, then one commutative-ring identity per entry -/
macro "m2" : tactic =>
  `(tactic| (simp only [mul_def, add_def, sub_def, neg_def, zero_def, one_def]; ext <;> (simp only []; ring)))

instance : Ring (M2 K) where
  add_assoc a b c := by m2
  zero_add a := by m2
  add_zero a := by m2
  add_comm a b := by m2
  neg_add_cancel a := by m2
  sub_eq_add_neg a b := by m2
  mul_assoc a b c := by m2
  one_mul a := by m2
  mul_one a := by m2
  left_distrib a b c := by m2
  right_distrib a b c := by m2
  zero_mul a := by m2
  mul_zero a := by m2
  nsmul := nsmulRec
  zsmul := zsmulRec
  natCast_zero := by ext <;> simp only [natCast_def, zero_def, Nat.cast_zero]
  natCast_succ n := by ext <;> simp only [natCast_def, add_def, one_def, Nat.cast_succ, add_zero]
  intCast_ofNat n := by ext <;> simp only [natCast_def, intCast_def, Int.cast_natCast]
  intCast_negSucc n := by ext <;> simp only [natCast_def, intCast_def, neg_def, Int.cast_negSucc, neg_zero]

/-- `A · Inverse2x2 A` and `Inverse2x2 A · A` are `(1 / det A) · det A` times the identity, for every `A` -/
theorem inv_diag (A : M2 K) :
    A * M2.inv A = ⟨1 / M2.det A * M2.det A, 0, 0, 1 / M2.det A * M2.det A⟩
      ∧ M2.inv A * A = ⟨1 / M2.det A * M2.det A, 0, 0, 1 / M2.det A * M2.det A⟩ := by
  constructor <;> ext <;> simp only [mul_def, M2.inv, M2.det, lit_eq, Nat.cast_one] <;> ring

theorem mul_inv (A : M2 K) (h : DivRing.U (M2.det A)) : A * M2.inv A = 1 := by
  rw [(inv_diag A).1, DivRing.div_mul 1 _ h, one_def]

theorem inv_mul (A : M2 K) (h : DivRing.U (M2.det A)) : M2.inv A * A = 1 := by
  rw [(inv_diag A).2, DivRing.div_mul 1 _ h, one_def]
end ST.M2

namespace ST.V2
instance : Add (V2 K) := ⟨V2.add⟩
instance : Sub (V2 K) := ⟨V2.sub⟩
instance : Neg (V2 K) := ⟨fun a => ⟨-a.x, -a.y⟩⟩
instance : Zero (V2 K) := ⟨⟨0, 0⟩⟩
instance : SMul (M2 K) (V2 K) := ⟨M2.act⟩
theorem add_def (a b : V2 K) : a + b = ⟨a.x + b.x, a.y + b.y⟩ := rfl
theorem sub_def (a b : V2 K) : a - b = ⟨a.x - b.x, a.y - b.y⟩ := rfl
theorem neg_def (a : V2 K) : -a = ⟨-a.x, -a.y⟩ := rfl
theorem zero_def : (0 : V2 K) = ⟨0, 0⟩ := rfl
theorem smul_def (m : M2 K) (v : V2 K) : m • v = ⟨m.a00 * v.x + m.a01 * v.y, m.a10 * v.x + m.a11 * v.y⟩ := rfl

instance : AddCommGroup (V2 K) where
  add_assoc a b c := by ext <;> simp only [add_def] <;> ring
  zero_add a := by ext <;> simp only [add_def, zero_def] <;> ring
  add_zero a := by ext <;> simp only [add_def, zero_def] <;> ring
  add_comm a b := by ext <;> simp only [add_def] <;> ring
  neg_add_cancel a := by ext <;> simp only [add_def, neg_def, zero_def] <;> ring
  sub_eq_add_neg a b := by ext <;> simp only [add_def, sub_def, neg_def] <;> ring
  nsmul := nsmulRec
  zsmul := zsmulRec

instance : Module (M2 K) (V2 K) where
  one_smul v := by ext <;> simp only [smul_def, M2.one_def] <;> ring
  mul_smul a b v := by ext <;> simp only [smul_def, M2.mul_def] <;> ring
  smul_zero a := by ext <;> simp only [smul_def, zero_def] <;> ring
  smul_add a v w := by ext <;> simp only [smul_def, add_def] <;> ring
  add_smul a b v := by ext <;> simp only [smul_def, add_def, M2.add_def] <;> ring
  zero_smul v := by ext <;> simp only [smul_def, zero_def, M2.zero_def] <;> ring
end ST.V2

theorem blkOps_M2 : (instBlkOpsM2V2 : BlkOps (M2 K) (V2 K)) = ringBlk M2.inv M2.transpose := rfl
end m2

section m3
variable {K : Type} [DivRing K]
namespace ST.M3
instance : Add (M3 K) := ⟨fun a b => ⟨a.a00+b.a00,a.a01+b.a01,a.a02+b.a02,a.a10+b.a10,a.a11+b.a11,a.a12+b.a12,a.a20+b.a20,a.a21+b.a21,a.a22+b.a22⟩⟩
instance : Sub (M3 K) := ⟨M3.sub⟩
instance : Neg (M3 K) := ⟨fun a => ⟨-a.a00,-a.a01,-a.a02,-a.a10,-a.a11,-a.a12,-a.a20,-a.a21,-a.a22⟩⟩
instance : Zero (M3 K) := ⟨⟨0,0,0,0,0,0,0,0,0⟩⟩
instance : One (M3 K) := ⟨⟨1,0,0,0,1,0,0,0,1⟩⟩
instance : Mul (M3 K) := ⟨M3.mul⟩
instance : NatCast (M3 K) := ⟨fun n => ⟨n,0,0,0,n,0,0,0,n⟩⟩
instance : IntCast (M3 K) := ⟨fun n => ⟨n,0,0,0,n,0,0,0,n⟩⟩
theorem mul_def (a b : M3 K) : a * b = ⟨
  a.a00*b.a00+a.a01*b.a10+a.a02*b.a20, a.a00*b.a01+a.a01*b.a11+a.a02*b.a21, a.a00*b.a02+a.a01*b.a12+a.a02*b.a22,
  a.a10*b.a00+a.a11*b.a10+a.a12*b.a20, a.a10*b.a01+a.a11*b.a11+a.a12*b.a21, a.a10*b.a02+a.a11*b.a12+a.a12*b.a22,
  a.a20*b.a00+a.a21*b.a10+a.a22*b.a20, a.a20*b.a01+a.a21*b.a11+a.a22*b.a21, a.a20*b.a02+a.a21*b.a12+a.a22*b.a22⟩ := rfl
theorem add_def (a b : M3 K) : a + b = ⟨a.a00+b.a00,a.a01+b.a01,a.a02+b.a02,a.a10+b.a10,a.a11+b.a11,a.a12+b.a12,a.a20+b.a20,a.a21+b.a21,a.a22+b.a22⟩ := rfl
theorem sub_def (a b : M3 K) : a - b = ⟨a.a00-b.a00,a.a01-b.a01,a.a02-b.a02,a.a10-b.a10,a.a11-b.a11,a.a12-b.a12,a.a20-b.a20,a.a21-b.a21,a.a22-b.a22⟩ := rfl
theorem neg_def (a : M3 K) : -a = ⟨-a.a00,-a.a01,-a.a02,-a.a10,-a.a11,-a.a12,-a.a20,-a.a21,-a.a22⟩ := rfl
theorem zero_def : (0 : M3 K) = ⟨0,0,0,0,0,0,0,0,0⟩ := rfl
theorem one_def : (1 : M3 K) = ⟨1,0,0,0,1,0,0,0,1⟩ := rfl
theorem natCast_def (n : ℕ) : (n : M3 K) = ⟨n,0,0,0,n,0,0,0,n⟩ := rfl
theorem intCast_def (n : ℤ) : (n : M3 K) = ⟨n,0,0,0,n,0,0,0,n⟩ := rfl

/-- unfold the operations, then one commutative-ring identity per entry -/
macro "m3" : tactic =>
  `(tactic| (simp only [mul_def, add_def, sub_def, neg_def, zero_def, one_def]; ext <;> (simp only []; ring)))

instance : Ring (M3 K) where
  add_assoc a b c := by m3
  zero_add a := by m3
  add_zero a := by m3
  add_comm a b := by m3
  neg_add_cancel a := by m3
  sub_eq_add_neg a b := by m3
  mul_assoc a b c := by m3
  one_mul a := by m3
  mul_one a := by m3
  left_distrib a b c := by m3
  right_distrib a b c := by m3
  zero_mul a := by m3
  mul_zero a := by m3
  nsmul := nsmulRec
  zsmul := zsmulRec
  natCast_zero := by ext <;> simp only [natCast_def, zero_def, Nat.cast_zero]
  natCast_succ n := by ext <;> simp only [natCast_def, add_def, one_def, Nat.cast_succ, add_zero]
  intCast_ofNat n := by ext <;> simp only [natCast_def, intCast_def, Int.cast_natCast]
  intCast_negSucc n := by ext <;> simp only [natCast_def, intCast_def, neg_def, Int.cast_negSucc, neg_zero]

/-- `A · Inverse3x3 A` and `Inverse3x3 A · A` (cofactors / determinant) are `(1 / det A) · det A` times the identity, for every `A` -/
theorem inv_diag (A : M3 K) :
    A * M3.inv A = ⟨1 / M3.det A * M3.det A, 0, 0, 0, 1 / M3.det A * M3.det A, 0, 0, 0, 1 / M3.det A * M3.det A⟩
      ∧ M3.inv A * A = ⟨1 / M3.det A * M3.det A, 0, 0, 0, 1 / M3.det A * M3.det A, 0, 0, 0, 1 / M3.det A * M3.det A⟩ := by
  constructor <;> ext <;> simp only [mul_def, M3.inv, M3.det, lit_eq, Nat.cast_one] <;> ring

theorem mul_inv (A : M3 K) (h : DivRing.U (M3.det A)) : A * M3.inv A = 1 := by
  rw [(inv_diag A).1, DivRing.div_mul 1 _ h, one_def]

theorem inv_mul (A : M3 K) (h : DivRing.U (M3.det A)) : M3.inv A * A = 1 := by
  rw [(inv_diag A).2, DivRing.div_mul 1 _ h, one_def]
end ST.M3

namespace ST.V3
instance : Add (V3 K) := ⟨V3.add⟩
instance : Sub (V3 K) := ⟨V3.sub⟩
instance : Neg (V3 K) := ⟨fun a => ⟨-a.x, -a.y, -a.z⟩⟩
instance : Zero (V3 K) := ⟨⟨0, 0, 0⟩⟩
instance : SMul (M3 K) (V3 K) := ⟨M3.act⟩
theorem add_def (a b : V3 K) : a + b = ⟨a.x + b.x, a.y + b.y, a.z + b.z⟩ := rfl
theorem sub_def (a b : V3 K) : a - b = ⟨a.x - b.x, a.y - b.y, a.z - b.z⟩ := rfl
theorem neg_def (a : V3 K) : -a = ⟨-a.x, -a.y, -a.z⟩ := rfl
theorem zero_def : (0 : V3 K) = ⟨0, 0, 0⟩ := rfl
theorem smul_def (m : M3 K) (v : V3 K) : m • v =
  ⟨m.a00*v.x + m.a01*v.y + m.a02*v.z, m.a10*v.x + m.a11*v.y + m.a12*v.z, m.a20*v.x + m.a21*v.y + m.a22*v.z⟩ := rfl

instance : AddCommGroup (V3 K) where
  add_assoc a b c := by ext <;> simp only [add_def] <;> ring
  zero_add a := by ext <;> simp only [add_def, zero_def] <;> ring
  add_zero a := by ext <;> simp only [add_def, zero_def] <;> ring
  add_comm a b := by ext <;> simp only [add_def] <;> ring
  neg_add_cancel a := by ext <;> simp only [add_def, neg_def, zero_def] <;> ring
  sub_eq_add_neg a b := by ext <;> simp only [add_def, sub_def, neg_def] <;> ring
  nsmul := nsmulRec
  zsmul := zsmulRec

instance : Module (M3 K) (V3 K) where
  one_smul v := by ext <;> simp only [smul_def, M3.one_def] <;> ring
  mul_smul a b v := by ext <;> simp only [smul_def, M3.mul_def] <;> ring
  smul_zero a := by ext <;> simp only [smul_def, zero_def] <;> ring
  smul_add a v w := by ext <;> simp only [smul_def, add_def] <;> ring
  add_smul a b v := by ext <;> simp only [smul_def, add_def, M3.add_def] <;> ring
  zero_smul v := by ext <;> simp only [smul_def, zero_def, M3.zero_def] <;> ring
end ST.V3

theorem blkOps_M3 : (instBlkOpsM3V3 : BlkOps (M3 K) (V3 K)) = ringBlk M3.inv M3.transpose := rfl
end m3
