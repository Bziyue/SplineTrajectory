import STProofs.Thomas
/-!
# The cubic spline model: pivots are positive, and the built pieces satisfy the defining conditions

The conditions: interpolation at both ends of every piece, C¹ and C² at interior knots, both boundary velocities; for every
number of segments N ≥ 1 and every positive duration vector.

A closure piece `piece s m0 m1` is the cubic over a segment with second derivatives `m0`, `m1` at its ends; what the
specification asks of it is read off six evaluations (`ev_piece_zero` … `ev2_piece_h`), and row `i` of the system
`rows` is `6 ×` the C¹ condition at knot `i` in these terms (`solves_interior_cons`, `solves_interior_nil`); the first
row is such a row after a segment of length zero with slope `v0` (`seg0`, `rows_eq_interior`).

The conditions are handled as a path of knot states `(position, velocity, acceleration)`: piece `i` leads from state `i` to
state `i+1` (`Path`).  The closure of a solution of the rows is such a path (`path_of_solves`, `cubic_build_path`), and
`CubicSpec` is read off it (`spec_of_path`).
-/
open ST ST.Cubic

section divring
variable {R : Type} [DivRing R]

theorem headOK_rows (v0 vn : R) (segs : List (Seg R)) : HeadOK (rows v0 vn segs) := by
  intro r rs h
  cases segs with
  | nil => simp [rows] at h
  | cons s rest => simp only [rows, List.cons.injEq] at h; rw [← h.1]; simp

/-- the boundary velocity `v0` is the slope of a segment of length zero before the first knot -/
abbrev seg0 (v0 : R) : Seg R := ⟨0, 0, 0, v0⟩

theorem rows_eq_interior (v0 vn : R) (segs : List (Seg R)) (hne : segs ≠ []) :
    rows v0 vn segs = interiorRows vn (seg0 v0) segs := by
  cases segs with
  | nil => exact absurd rfl hne
  | cons s rest => simp [rows, interiorRows]

theorem solves_interior_ne_nil (vn : R) (prev : Seg R) (rest : List (Seg R)) (mp : R) (ms : List R)
    (h : Solves mp (interiorRows vn prev rest) ms) : ms ≠ [] := by
  cases rest <;> (rintro rfl; exact h)

end divring

section ordered
variable {K : Type} [Field K] [LinearOrder K] [IsStrictOrderedRing K]

def AllPos : List (Seg K) → Prop
  | [] => True
  | s :: rest => 0 < s.h ∧ AllPos rest

theorem allPos_iff (l : List (Seg K)) : AllPos l ↔ ∀ s ∈ l, 0 < s.h := by
  induction l with
  | nil => simp [AllPos]
  | cons a l ih => simp [AllPos, ih]

theorem allPos_of_forall (segs : List (Seg K)) (h : ∀ s ∈ segs, 0 < s.h) : AllPos segs :=
  (allPos_iff segs).mpr h

/-- one step of the sweep (diagonal dominance): with `c' ≤ 1/2` the next pivot `2(a + b) − a c'` is positive and the next
`c' = b / pivot` is again `≤ 1/2` -/
theorem piv_step (a b c : K) (ha : 0 ≤ a) (hb : 0 ≤ b) (hab : 0 < a + b) (h1 : c * 2 ≤ 1) :
    0 < 2 * (a + b) - a * c ∧ b * (1 / (2 * (a + b) - a * c)) * 2 ≤ 1 := by
  have hle : a * c ≤ a := mul_le_of_le_one_right ha (by linarith)
  have hden : 0 < 2 * (a + b) - a * c := by linarith
  refine ⟨hden, ?_⟩
  rw [mul_one_div, div_mul_eq_mul_div, div_le_one hden]; linarith

/-- `prev` may have length zero if a segment follows (the first row, `rows_eq_interior`) -/
theorem pivok_interior (vn : K) (prev : Seg K) (rest : List (Seg K)) (cp0 dp0 : K)
    (hprev : 0 ≤ prev.h) (hlast : rest = [] → 0 < prev.h) (hrest : AllPos rest) (h1 : cp0 * 2 ≤ 1) :
    PivOK (some (cp0, dp0)) (interiorRows vn prev rest) := by
  induction rest generalizing prev cp0 dp0 with
  | nil =>
    have := (piv_step prev.h 0 cp0 hprev le_rfl (by simpa using hlast rfl) h1).1
    rw [add_zero] at this
    simp only [interiorRows, PivOK, lit_eq, and_true]
    push_cast
    exact this.ne'
  | cons s rest ih =>
    obtain ⟨hs, hrest'⟩ := hrest
    obtain ⟨hden, hc2⟩ := piv_step prev.h s.h cp0 hprev hs.le (by linarith) h1
    simp only [interiorRows, PivOK, lit_eq]
    push_cast
    exact ⟨hden.ne', ih s _ _ hs.le (fun _ => hs) hrest' hc2⟩

/-- **every pivot of the cubic system is positive** for positive durations: the elimination never divides by zero -/
theorem pivok_cubic (v0 vn : K) (segs : List (Seg K)) (hpos : AllPos segs) :
    PivOK none (rows v0 vn segs) := by
  cases segs with
  | nil => trivial
  | cons s rest =>
    rw [pivOK_none, rows_eq_interior v0 vn _ (by simp)]
    exact pivok_interior vn _ _ 0 0 le_rfl (by simp) hpos (by simp)

end ordered

attribute [ext] C4

section field
variable {K : Type} [Field K]

/-- value and derivatives of a cubic piece at local time `t` -/
def ev (p : C4 K) (t : K) : K := p.c0 + p.c1 * t + p.c2 * t^2 + p.c3 * t^3
def ev1 (p : C4 K) (t : K) : K := p.c1 + 2 * p.c2 * t + 3 * p.c3 * t^2
def ev2 (p : C4 K) (t : K) : K := 2 * p.c2 + 6 * p.c3 * t

namespace CubicEG

def piece (s : Seg K) (m0 m1 : K) : C4 K :=
  ⟨s.p0, s.pd - (s.h / 6) * (2 * m0 + m1), m0 * (1 / 2), (m1 - m0) * ((1 / s.h) / 6)⟩

theorem closure_cons (s : Seg K) (rest : List (Seg K)) (m0 m1 : K) (ms : List K) :
    closure (s :: rest) (m0 :: m1 :: ms) = piece s m0 m1 :: closure rest (m1 :: ms) := by
  simp only [closure, piece, lit_eq]; push_cast; rfl

end CubicEG

def mkSeg (h p0 p1 : K) : Seg K := ⟨h, p0, p1 - p0, (p1 - p0) * (lit 1 / h)⟩

theorem mkSegs_cons (h p0 p1 : K) (hs Ps : List K) :
    mkSegs (h :: hs) (p0 :: p1 :: Ps) = mkSeg h p0 p1 :: mkSegs hs (p1 :: Ps) := rfl

theorem mkSeg_end (h p0 p1 : K) (hh : h ≠ 0) : (mkSeg h p0 p1).p0 + (mkSeg h p0 p1).pd * h = p1 := by
  simp only [mkSeg, lit_eq, Nat.cast_one]; field_simp; ring

/-- interpolation on both sides, C¹/C² at interior knots, end velocity: along durations, waypoints, pieces -/
def CubicSpec (vn : K) : List K → List K → List (C4 K) → Prop
  | [h], [p0, p1], [c] => ev c 0 = p0 ∧ ev c h = p1 ∧ ev1 c h = vn
  | h :: h' :: hs, p0 :: p1 :: ps, c :: c' :: cs =>
      ev c 0 = p0 ∧ ev c h = p1 ∧ ev1 c h = ev1 c' 0 ∧ ev2 c h = ev2 c' 0 ∧ CubicSpec vn (h' :: hs) (p1 :: ps) (c' :: cs)
  | _, _, _ => False

theorem spec_lengths (vn : K) (hs Ps : List K) (cs : List (C4 K)) (h : CubicSpec vn hs Ps cs) :
    Ps.length = hs.length + 1 ∧ cs.length = hs.length := by
  induction hs generalizing Ps cs with
  | nil => cases Ps <;> cases cs <;> simp [CubicSpec] at h
  | cons h₀ hs ih =>
    cases hs with
    | nil => match Ps, cs, h with
      | [_, _], [_], _ => simp
    | cons h₁ hs' => match Ps, cs, h with
      | _ :: p1 :: Ps', _ :: c' :: cs', h => simpa using ih (p1 :: Ps') (c' :: cs') h.2.2.2.2

/-! ### a spline as a path of knot states

`CubicSpec` with the start velocity says: a path through the waypoints from velocity `v0` to velocity `vn`
(`path_of_spec`, `spec_of_path`).  What follows is proved of paths: their base case is the empty list, not one segment. -/
namespace CubicEG

def St (c : C4 K) (t : K) : K × K × K := (ev c t, ev1 c t, ev2 c t)

/-- pieces (with their durations) joined C² — from knot state `a` to knot state `b` -/
def Path : K × K × K → List (K × C4 K) → K × K × K → Prop
  | a, [], b => a = b
  | a, x :: l, b => St x.2 0 = a ∧ Path (St x.2 x.1) l b

theorem path_append (a b : K × K × K) (l₁ l₂ : List (K × C4 K)) :
    Path a (l₁ ++ l₂) b ↔ ∃ m, Path a l₁ m ∧ Path m l₂ b := by
  induction l₁ generalizing a with
  | nil => simp [Path]
  | cons x l ih =>
    simp only [List.cons_append, Path, ih]
    exact ⟨fun ⟨h, m, h1, h2⟩ => ⟨m, ⟨h, h1⟩, h2⟩, fun ⟨m, ⟨h, h1⟩, h2⟩ => ⟨h, m, h1, h2⟩⟩

/-- the knot positions along a path -/
def knotsOf (l : List (K × C4 K)) (b : K × K × K) : List K := l.map (fun x => ev x.2 0) ++ [b.1]

theorem knotsOf_cons (x : K × C4 K) (l : List (K × C4 K)) (b : K × K × K) :
    knotsOf (x :: l) b = ev x.2 0 :: knotsOf l b := rfl

/-- the same knots, read off the right ends of the pieces -/
theorem knots_shift (a b : K × K × K) (l : List (K × C4 K)) (h : Path a l b) :
    a.1 :: l.map (fun x => ev x.2 x.1) = knotsOf l b := by
  induction l generalizing a with
  | nil => cases h; rfl
  | cons x l ih =>
    obtain ⟨h0, hp⟩ := h
    rw [knotsOf_cons, ← ih _ hp, ← h0]; rfl

theorem path_of_spec (v0 vn : K) (hs Ps : List K) (cs : List (C4 K)) (h : CubicSpec vn hs Ps cs)
    (hv : ∀ p ps, cs = p :: ps → ev1 p 0 = v0) :
    ∃ a b, Path a (hs.zip cs) b ∧ a.2.1 = v0 ∧ b.2.1 = vn ∧ Ps = knotsOf (hs.zip cs) b := by
  induction hs generalizing Ps cs v0 with
  | nil => cases Ps <;> cases cs <;> simp [CubicSpec] at h
  | cons h₀ hs ih =>
    cases hs with
    | nil =>
      match Ps, cs, h with
      | [p0, p1], [c], h =>
        obtain ⟨e0, e1, e2⟩ := h
        exact ⟨St c 0, St c h₀, ⟨rfl, rfl⟩, hv c [] rfl, e2, by simp [knotsOf, St, e0, e1]⟩
    | cons h₁ hs' =>
      match Ps, cs, h with
      | p0 :: p1 :: Ps', c :: c' :: cs', h =>
        obtain ⟨e0, e1, j1, j2, hrest⟩ := h
        obtain ⟨a, b, hp, -, hb, hPs⟩ := ih (ev1 c' 0) (p1 :: Ps') (c' :: cs') hrest
          (by intro p ps e; cases e; rfl)
        simp only [List.zip_cons_cons, knotsOf, List.map_cons, List.cons_append, List.cons.injEq, Path] at hp hPs ⊢
        refine ⟨St c 0, b, ⟨rfl, ?_, hp.2⟩, hv c _ rfl, hb, e0.symm, hPs.1, hPs.2⟩
        simp only [St, ← hPs.1, e1, j1, j2]

theorem spec_of_path (vn : K) (hs Ps : List K) (cs : List (C4 K)) (a b : K × K × K) (hne : hs ≠ [])
    (hl : cs.length = hs.length) (hp : Path a (hs.zip cs) b) (hb : b.2.1 = vn) (hPs : Ps = knotsOf (hs.zip cs) b) :
    CubicSpec vn hs Ps cs := by
  induction hs generalizing Ps cs a with
  | nil => exact absurd rfl hne
  | cons h₀ hs ih =>
    match cs, hl with
    | c :: cs, hl =>
      subst hPs
      cases hs with
      | nil =>
        match cs, hl with
        | [], _ =>
          obtain ⟨-, rfl⟩ := hp
          exact ⟨rfl, rfl, hb⟩
      | cons h₁ hs' =>
        match cs, hl with
        | c' :: cs', hl =>
          obtain ⟨-, hp'⟩ := hp
          have ih' := ih _ (c' :: cs') _ (by simp) (by simpa using hl) hp' rfl
          obtain ⟨e, -⟩ := hp'
          simp only [St, Prod.mk.injEq] at e
          simp only [List.zip_cons_cons, knotsOf, List.map_cons, List.cons_append] at ih' ⊢
          exact ⟨rfl, e.1.symm, e.2.1.symm, e.2.2.symm, ih'⟩

end CubicEG

end field

section charzero
variable {K : Type} [Field K] [CharZero K]
namespace CubicEG

@[simp] theorem ev_piece_zero (s : Seg K) (m0 m1 : K) : ev (piece s m0 m1) 0 = s.p0 := by
  simp only [piece, ev]; ring
@[simp] theorem ev_piece_h (s : Seg K) (m0 m1 : K) : ev (piece s m0 m1) s.h = s.p0 + s.pd * s.h := by
  simp only [piece, ev]; field_simp; ring
@[simp] theorem ev1_piece_zero (s : Seg K) (m0 m1 : K) :
    ev1 (piece s m0 m1) 0 = s.pd - s.h / 6 * (2 * m0 + m1) := by
  simp only [piece, ev1]; ring
@[simp] theorem ev1_piece_h (s : Seg K) (m0 m1 : K) :
    ev1 (piece s m0 m1) s.h = s.pd + s.h / 6 * (m0 + 2 * m1) := by
  simp only [piece, ev1]; field_simp; ring
@[simp] theorem ev2_piece_zero (s : Seg K) (m0 m1 : K) : ev2 (piece s m0 m1) 0 = m0 := by
  simp only [piece, ev2]; ring
theorem ev2_piece_h (s : Seg K) (m0 m1 : K) (hh : s.h ≠ 0) : ev2 (piece s m0 m1) s.h = m1 := by
  simp only [piece, ev2]; field_simp; ring

end CubicEG
open CubicEG

theorem ev_piece_mkSeg (h p0 p1 m0 m1 : K) (hh : h ≠ 0) : ev (piece (mkSeg h p0 p1) m0 m1) h = p1 :=
  (ev_piece_h (mkSeg h p0 p1) m0 m1).trans (mkSeg_end h p0 p1 hh)

theorem St_piece_zero (s : Seg K) (m0 m1 : K) : St (piece s m0 m1) 0 = (s.p0, ev1 (piece s m0 m1) 0, m0) :=
  Prod.ext (ev_piece_zero ..) (Prod.ext rfl (ev2_piece_zero ..))

theorem St_piece_mkSeg (h p0 p1 m0 m1 : K) (hh : h ≠ 0) :
    St (piece (mkSeg h p0 p1) m0 m1) h = (p1, ev1 (piece (mkSeg h p0 p1) m0 m1) h, m1) :=
  Prod.ext (ev_piece_mkSeg _ _ _ _ _ hh) (Prod.ext rfl (ev2_piece_h _ _ _ hh))

/-- an interior row is `6 ×` the C¹ condition at its knot: the piece over `s` starts with the velocity the piece over
`prev` ends with -/
theorem solves_interior_cons (vn : K) (prev s : Seg K) (rest : List (Seg K)) (mp m0 : K) (ms : List K) :
    Solves mp (interiorRows vn prev (s :: rest)) (m0 :: ms) ↔
      ev1 (piece s m0 (ms.headD 0)) 0 = ev1 (piece prev mp m0) prev.h ∧ Solves m0 (interiorRows vn s rest) ms := by
  simp only [interiorRows, Solves, lit_eq, ev1_piece_zero, ev1_piece_h]
  push_cast
  exact and_congr_left' ⟨fun h => by linear_combination -h / 6, fun h => by linear_combination -(6 : K) * h⟩

/-- the last row is `6 ×` the end-velocity condition -/
theorem solves_interior_nil (vn : K) (prev : Seg K) (mp : K) (ms : List K) :
    Solves mp (interiorRows vn prev []) ms ↔ ∃ m, ms = [m] ∧ ev1 (piece prev mp m) prev.h = vn := by
  match ms with
  | [] => simp [interiorRows, Solves]
  | [m] =>
    simp only [interiorRows, Solves, lit_eq, ev1_piece_h, List.headD_nil, and_true, List.cons.injEq, exists_eq_left']
    push_cast
    exact ⟨fun h => by linear_combination h / 6, fun h => by linear_combination (6 : K) * h⟩
  | _ :: _ :: _ => simp [interiorRows, Solves]

/-- the closure of a solution `ms` of the rows after a segment `prev` is a path through the waypoints that ends with
velocity `vn` (interpolation and C² hold by construction of `piece`, the rows are the C¹ conditions and the end velocity);
it starts in the state in which the piece over `prev` ends -/
theorem path_of_solves (vn : K) (prev : Seg K) (mp p0 : K) (hs Ps ms : List K)
    (hne : ∀ x ∈ hs, x ≠ 0) (hlen : Ps.length = hs.length)
    (hS : Solves mp (interiorRows vn prev (mkSegs hs (p0 :: Ps))) ms) :
    ∃ b, Path (p0, ev1 (piece prev mp (ms.headD 0)) prev.h, ms.headD 0) (hs.zip (closure (mkSegs hs (p0 :: Ps)) ms)) b ∧
      b.2.1 = vn ∧ p0 :: Ps = knotsOf (hs.zip (closure (mkSegs hs (p0 :: Ps)) ms)) b := by
  induction hs generalizing prev mp p0 Ps ms with
  | nil =>
    obtain ⟨m, rfl, hvn⟩ := (solves_interior_nil ..).mp hS
    match Ps, hlen with
    | [], _ => exact ⟨_, rfl, hvn, rfl⟩
  | cons h hs ih =>
    match Ps, hlen, ms, hS with
    | p1 :: Ps, hlen, m0 :: ms, hS =>
      obtain ⟨hv, hS⟩ := (solves_interior_cons ..).mp hS
      obtain ⟨m1, ms, rfl⟩ := List.exists_cons_of_ne_nil (solves_interior_ne_nil _ _ _ _ _ hS)
      obtain ⟨b, hp, hb, hk⟩ := ih (mkSeg h p0 p1) m0 p1 Ps (m1 :: ms) (fun x hx => hne x (by simp [hx]))
        (by simpa using hlen) hS
      rw [mkSegs_cons, closure_cons, List.zip_cons_cons]
      refine ⟨b, ⟨?_, ?_⟩, hb, ?_⟩
      · rw [St_piece_zero]; exact congrArg (fun v => (p0, v, m0)) hv
      · rw [St_piece_mkSeg _ _ _ _ _ (hne h (by simp))]; exact hp
      · rw [knotsOf_cons, ← hk]; exact congrArg (· :: _) (ev_piece_zero (mkSeg h p0 p1) m0 m1).symm

end charzero

section ordered2
variable {K : Type} [Field K] [LinearOrder K] [IsStrictOrderedRing K]
open CubicEG

theorem knotM_solves (v0 vn : K) (segs : List (Seg K)) (hpos : AllPos segs) :
    Solves 0 (rows v0 vn segs) (knotM v0 vn segs) :=
  thomas_correct (rows v0 vn segs) (pivok_cubic v0 vn segs hpos) 0 (headOK_rows v0 vn segs)

theorem knotM_unique (v0 vn : K) (segs : List (Seg K)) (hpos : AllPos segs) (xs : List K)
    (h : Solves 0 (rows v0 vn segs) xs) : knotM v0 vn segs = xs :=
  (thomas_unique _ (pivok_cubic v0 vn segs hpos) (headOK_rows v0 vn segs) xs 0 h).symm

def PosList : List K → Prop
  | [] => True
  | h :: hs => 0 < h ∧ PosList hs

theorem posList_iff (l : List K) : PosList l ↔ ∀ x ∈ l, 0 < x := by
  induction l with
  | nil => simp [PosList]
  | cons a l ih => simp [PosList, ih]

namespace CubicEG
/-- segments as `mkSegs` produces them: positive duration, and the two cached forms of the slope agree (`segContribs`
reads `dp`, `closure` reads `pd`) -/
def Good (segs : List (Seg K)) : Prop := ∀ s ∈ segs, 0 < s.h ∧ s.pd = s.dp * (1 / s.h)

theorem Good.allPos {segs : List (Seg K)} (h : Good segs) : AllPos segs := (allPos_iff _).mpr fun s hs => (h s hs).1

theorem good_mkSegs (hs Ps : List K) (hp : PosList hs) : Good (mkSegs hs Ps) := by
  induction hs generalizing Ps with
  | nil => cases Ps <;> simp [mkSegs, Good]
  | cons a hs ih =>
    match Ps with
    | [] | [_] => simp [mkSegs, Good]
    | p0 :: p1 :: ps => exact List.forall_mem_cons.mpr ⟨⟨hp.1, by simp [lit_eq]⟩, ih (p1 :: ps) hp.2⟩
end CubicEG

theorem allPos_mkSegs (h P : List K) (hp : PosList h) : AllPos (mkSegs h P) := (good_mkSegs h P hp).allPos

/-- the pieces `build` publishes form a path through the waypoints from velocity `v0` to velocity `vn` -/
theorem cubic_build_path (v0 vn : K) (h P : List K) (hp : PosList h) (hne : h ≠ []) (hlen : P.length = h.length + 1) :
    ∃ a b, Path a (h.zip (build h P v0 vn)) b ∧ a.2.1 = v0 ∧ b.2.1 = vn ∧ P = knotsOf (h.zip (build h P v0 vn)) b := by
  match P, hlen with
  | p0 :: Ps, hlen =>
    have hsol := knotM_solves v0 vn _ (allPos_mkSegs h (p0 :: Ps) hp)
    rw [rows_eq_interior v0 vn _ (mkSegs_ne_nil h _ hne hlen)] at hsol
    obtain ⟨b, hpath, hb, hk⟩ := path_of_solves vn (seg0 v0) 0 p0 h Ps _ (fun x hx => ((posList_iff _).mp hp x hx).ne')
      (Nat.succ.inj hlen) hsol
    exact ⟨_, b, hpath, by simp, hb, hk⟩

/-- **C01/C02 (cubic), every N ≥ 1, every positive duration vector, every data**: the pieces `build` publishes
interpolate every waypoint from both sides, are C¹ and C² at every interior knot, and start / end with
the supplied boundary velocities. -/
theorem cubic_build_spec (v0 vn : K) (h P : List K) (hp : PosList h) (hne : h ≠ [])
    (hlen : P.length = h.length + 1) :
    CubicSpec vn h P (build h P v0 vn) ∧ ∀ p ps, build h P v0 vn = p :: ps → ev1 p 0 = v0 := by
  obtain ⟨a, b, hpath, ha, hb, hk⟩ := cubic_build_path v0 vn h P hp hne hlen
  refine ⟨spec_of_path vn h P _ a b hne (by simp [hlen]) hpath hb hk, fun p ps e => ?_⟩
  match h, hne with
  | _ :: _, _ => rw [e] at hpath; exact (congrArg (·.2.1) hpath.1).trans ha

end ordered2
