import STProofs.PPolyCache
import Mathlib.Data.List.Count
import Mathlib.Data.List.Sort
/-!
# Segment lookup (C03): half-open intervals, clamping, and hint independence

For strictly increasing breakpoints `b₀ < … < bₙ` (n ≥ 1 segments) `findSegment t` is
`specIdx = min (#{i | bᵢ ≤ t} − 1) (n − 1)`: the piece whose half-open interval `[bᵢ, bᵢ₊₁)` contains `t`, the
first piece before `b₀`, the last piece from `bₙ` on.  Both code paths (linear scan below 32 segments, binary
search from 32 on) compute it, and the hinted lookup returns the same index for *every* hint value and leaves the
hint equal to it.
-/
open ST

section
variable {K : Type} [Field K] [LinearOrder K] [FloorRing K]

def countLE (t : K) : List K → Nat
  | [] => 0
  | b :: rest => (if b ≤ t then 1 else 0) + countLE t rest

/-- the index the statement of C03 prescribes -/
def specIdx (bs : List K) (t : K) : Nat := min (countLE t bs - 1) (bs.length - 2)

abbrev Sorted (bs : List K) : Prop := bs.Pairwise (· < ·)

section
omit [Field K] [FloorRing K]

theorem countLE_eq_countP (t : K) (bs : List K) : countLE t bs = bs.countP (· ≤ t) := by
  induction bs with
  | nil => rfl
  | cons b rest ih => simp only [countLE, ih, List.countP_cons, decide_eq_true_eq, Nat.add_comm]

theorem countLE_eq_zero (t : K) (bs : List K) (h : ∀ b ∈ bs, t < b) : countLE t bs = 0 := by
  rw [countLE_eq_countP, List.countP_eq_zero]; simpa using h

theorem countLE_eq_length (t : K) (bs : List K) (h : ∀ b ∈ bs, b ≤ t) : countLE t bs = bs.length := by
  rw [countLE_eq_countP, List.countP_eq_length]; simpa using h

theorem countLE_lt_length (t : K) (bs : List K) (h : ∃ b ∈ bs, t < b) : countLE t bs < bs.length := by
  rw [countLE_eq_countP, List.countP_lt_length_iff]; simpa using h

theorem countLE_split (t : K) (pre suf : List K) (hpre : ∀ x ∈ pre, x ≤ t) (hsuf : ∀ x ∈ suf, t < x) :
    countLE t (pre ++ suf) = pre.length := by
  rw [countLE_eq_countP, List.countP_append, ← countLE_eq_countP, ← countLE_eq_countP, countLE_eq_length t pre hpre,
    countLE_eq_zero t suf hsuf, Nat.add_zero]

theorem Sorted.gt_of_head_gt {t b : K} {rest : List K} (hs : Sorted (b :: rest)) (h : t < b) : ∀ x ∈ b :: rest, t < x :=
  List.forall_mem_cons.mpr ⟨h, fun _ hx => h.trans (List.rel_of_pairwise_cons hs hx)⟩

theorem Sorted.le_getLast {bs : List K} (hs : Sorted bs) {l : K} (hl : bs.getLast? = some l) : ∀ x ∈ bs, x ≤ l := by
  rw [← List.dropLast_append_getLast? l hl] at hs ⊢
  intro x hx
  rcases List.mem_append.mp hx with h | h
  · exact ((List.pairwise_append.mp hs).2.2 x h l (by simp)).le
  · exact (List.mem_singleton.mp h).le

theorem specIdx_le (bs : List K) (t : K) : specIdx bs t ≤ bs.length - 2 := Nat.min_le_right _ _

theorem specIdx_of_le_head {b0 t : K} {rest : List K} (hs : Sorted (b0 :: rest)) (h : t ≤ b0) :
    specIdx (b0 :: rest) t = 0 := by
  have := countLE_eq_zero t rest (fun x hx => h.trans_lt (List.rel_of_pairwise_cons hs hx))
  rw [specIdx, countLE, this, Nat.add_zero]
  exact Nat.min_eq_zero_iff.mpr (.inl (by split <;> rfl))

theorem specIdx_of_ge_last {bs : List K} {t l : K} (hs : Sorted bs) (hl : bs.getLast? = some l) (h : l ≤ t) :
    specIdx bs t = bs.length - 2 := by
  rw [specIdx, countLE_eq_length t bs (fun x hx => (hs.le_getLast hl x hx).trans h)]
  exact Nat.min_eq_right (Nat.sub_le_sub_left (Nat.le_succ 1) _)

/-- the prescribed index is the piece whose half-open interval contains `t` -/
theorem specIdx_of_interval (bs : List K) (t : K) (hs : Sorted bs) (idx : Nat) (bi bi1 : K) (rest : List K)
    (hd : bs.drop idx = bi :: bi1 :: rest) (h1 : bi ≤ t) (h2 : t < bi1) : specIdx bs t = idx := by
  have hsplit : bs = (bs.take idx ++ [bi]) ++ (bi1 :: rest) := by
    rw [List.append_assoc, List.singleton_append, ← hd, List.take_append_drop]
  have hlen : idx + 2 ≤ bs.length := by
    have := congrArg List.length hd
    simp only [List.length_drop, List.length_cons] at this; omega
  rw [hsplit] at hs
  obtain ⟨hpre, hsuf, -⟩ := List.pairwise_append.mp hs
  have hc := countLE_split t _ _ (fun x hx => (Sorted.le_getLast hpre (by simp) x hx).trans h1) (Sorted.gt_of_head_gt hsuf h2)
  rw [← hsplit] at hc
  simp only [specIdx, hc, List.length_append, List.length_take, List.length_singleton]; omega

end

omit [FloorRing K] in
/-- at a breakpoint the prescribed piece is the one that starts there; at the last breakpoint it is the last piece -/
theorem specIdx_getD {bs : List K} (hs : Sorted bs) {i : Nat} (hi : i < bs.length) :
    specIdx bs (bs.getD i 0) = min i (bs.length - 2) := by
  rw [List.getD_eq_getElem?_getD, List.getElem?_eq_getElem hi, Option.getD_some]
  rcases Nat.lt_or_ge (i + 1) bs.length with h | h
  · rw [Nat.min_eq_left (Nat.le_sub_of_add_le h)]
    exact specIdx_of_interval bs _ hs i bs[i] bs[i + 1] (bs.drop (i + 2))
      (by rw [List.drop_eq_getElem_cons hi, List.drop_eq_getElem_cons h]) le_rfl
      (List.pairwise_iff_getElem.mp hs i (i + 1) hi h (Nat.lt_succ_self i))
  · obtain rfl : i = bs.length - 1 := Nat.le_antisymm (Nat.le_sub_one_of_lt hi) (Nat.sub_le_of_le_add h)
    rw [Nat.min_eq_right (Nat.sub_le_sub_left (Nat.le_succ 1) _)]
    exact specIdx_of_ge_last hs (List.getLast?_eq_getElem? ▸ List.getElem?_eq_getElem hi) le_rfl

/-- `std::upper_bound` on a sorted range = number of elements `≤ t` -/
theorem upperBound_eq_countLE (t : K) (bs : List K) (hs : Sorted bs) : PPoly.upperBound t bs = countLE t bs := by
  induction bs with
  | nil => rfl
  | cons b rest ih =>
    simp only [PPoly.upperBound, NumOrd.lt, decide_eq_true_eq]
    split
    · next h => exact (countLE_eq_zero t _ (hs.gt_of_head_gt h)).symm
    · next h => simp only [countLE, not_lt.mp h, if_true, ih hs.of_cons]

/-- the linear scan: index of the first breakpoint (after the first) that exceeds `t` -/
theorem scanLinear_eq (t : K) (i : Nat) (b : K) (rest : List K) (last : Nat) (hs : Sorted (b :: rest))
    (hex : ∃ x ∈ rest, t < x) : PPoly.scanLinear t i (b :: rest) last = i + countLE t rest := by
  induction rest generalizing i b with
  | nil => simp at hex
  | cons b1 rest ih =>
    rw [PPoly.scanLinear]
    simp only [NumOrd.lt, decide_eq_true_eq]
    split
    · next h => rw [countLE_eq_zero t _ (Sorted.gt_of_head_gt hs.of_cons h)]; rfl
    · next h =>
      have hex' : ∃ x ∈ rest, t < x := by simpa [h] using hex
      simp only [ih (i + 1) b1 hs.of_cons hex', countLE, not_lt.mp h, if_true]
      exact Nat.add_assoc _ _ _

/-- **`findSegment` computes the prescribed index**, whichever search it uses -/
theorem findSegment_spec (p : PPoly K) (t : K) (hs : Sorted p.breakpoints)
    (hlen : p.breakpoints.length = p.numSegments + 1) (hn : 1 ≤ p.numSegments) :
    p.findSegment t = specIdx p.breakpoints t := by
  unfold PPoly.findSegment
  match hb : p.breakpoints, hlen with
  | b0 :: rest, hlen =>
    rw [hb] at hs
    obtain ⟨bn, hbn⟩ : ∃ bn, (b0 :: rest).getLast? = some bn := ⟨_, List.getLast?_eq_some_getLast (by simp)⟩
    have hn0 : p.numSegments ≠ 0 := Nat.ne_of_gt hn
    simp only [List.head?_cons, hbn, hn0, if_false, NumOrd.le, decide_eq_true_eq]
    simp only [List.length_cons] at hlen
    by_cases h1 : t ≤ b0
    · rw [if_pos h1, specIdx_of_le_head hs h1]
    by_cases h2 : bn ≤ t
    · rw [if_neg h1, if_pos h2, specIdx_of_ge_last hs hbn h2, List.length_cons, hlen]; rfl
    rw [if_neg h1, if_neg h2]
    -- strictly inside: the last breakpoint is in `rest` and exceeds `t`
    have hex : ∃ x ∈ rest, t < x := by
      rcases List.mem_cons.mp (List.mem_of_getLast? hbn) with rfl | hm
      · exact (h1 (not_le.mp h2).le).elim
      · exact ⟨bn, hm, not_le.mp h2⟩
    have hc : countLE t (b0 :: rest) = 1 + countLE t rest := by simp [countLE, (not_le.mp h1).le]
    have := countLE_lt_length t rest hex
    have hsp : specIdx (b0 :: rest) t = countLE t rest := by
      rw [specIdx, hc, Nat.add_sub_cancel_left, List.length_cons]
      exact Nat.min_eq_left (Nat.le_sub_of_add_le (Nat.succ_le_succ this))
    rw [hsp]
    split
    · rw [scanLinear_eq t 0 b0 rest _ hs hex, Nat.zero_add]
    · rw [upperBound_eq_countLE t _ hs, hc, Nat.add_sub_cancel_left]

/-- **the hint never matters**: for every hint value (valid, stale, negative, too large) the hinted lookup returns the
same index as the plain one and leaves the hint equal to it -/
theorem findSegmentHint_eq (p : PPoly K) (t : K) (hint : Int) (hs : Sorted p.breakpoints)
    (hlen : p.breakpoints.length = p.numSegments + 1) (hn : 1 ≤ p.numSegments) :
    (p.findSegmentHint t hint).1 = p.findSegment t ∧ (p.findSegmentHint t hint).2 = (p.findSegment t : Int) := by
  -- a branch that does not fall back to `findSegment` has checked that the half-open interval of its index contains `t`
  have hit : ∀ j bj bj1 r, p.breakpoints.drop j = bj :: bj1 :: r → (NumOrd.le bj t && NumOrd.lt t bj1) = true →
      p.findSegment t = j := fun j bj bj1 r hd h => by
    simp only [NumOrd.le, NumOrd.lt, Bool.and_eq_true, decide_eq_true_eq] at h
    rw [findSegment_spec p t hs hlen hn, specIdx_of_interval _ t hs j bj bj1 r hd h.1 h.2]
  unfold PPoly.findSegmentHint
  dsimp only
  split
  · next hr =>
    have h0 : (hint.toNat : Int) = hint := Int.toNat_of_nonneg (of_decide_eq_true ((Bool.and_eq_true _ _).mp hr).1)
    split
    · next bi bi1 rest hd =>
      split
      · next h => exact ⟨(hit _ _ _ _ hd h).symm, by rw [hit _ _ _ _ hd h, h0]⟩
      · split
        · split
          · next bi2 r2 =>
            split
            · next h =>
              have hd2 : p.breakpoints.drop (hint.toNat + 1) = bi1 :: bi2 :: r2 := by rw [← List.drop_drop, hd]; rfl
              exact ⟨(hit _ _ _ _ hd2 h).symm, by rw [hit _ _ _ _ hd2 h]; push_cast; rw [h0]⟩
            · exact ⟨rfl, rfl⟩
          · exact ⟨rfl, rfl⟩
        · exact ⟨rfl, rfl⟩
    · exact ⟨rfl, rfl⟩
  · exact ⟨rfl, rfl⟩

/-- the clamped/half-open characterisation of the prescribed index -/
theorem specIdx_char (bs : List K) (t : K) (hs : Sorted bs) (n : Nat) (hlen : bs.length = n + 1) (hn : 1 ≤ n) :
    let i := specIdx bs t
    i ≤ n - 1 ∧
    (t < bs.headD 0 → i = 0) ∧
    (bs.getLastD 0 ≤ t → i = n - 1) ∧
    (∀ j bj bj1 rest, bs.drop j = bj :: bj1 :: rest → bj ≤ t → t < bj1 → i = j) := by
  obtain ⟨b0, rest, rfl⟩ : ∃ b0 rest, bs = b0 :: rest := by
    cases bs with
    | nil => simp at hlen
    | cons a l => exact ⟨a, l, rfl⟩
  intro i
  refine ⟨(specIdx_le _ t).trans_eq (by rw [hlen]; rfl), fun h => specIdx_of_le_head hs (le_of_lt h), fun h => ?_,
    fun j bj bj1 r => specIdx_of_interval _ t hs j bj bj1 r⟩
  · have hl : (b0 :: rest).getLast? = some ((b0 :: rest).getLastD 0) := by
      rw [List.getLastD_eq_getLast?, List.getLast?_eq_some_getLast (by simp)]; simp
    rw [show i = _ from specIdx_of_ge_last hs hl h, hlen]; rfl

end
