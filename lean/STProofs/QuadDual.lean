import STProofs.BasisTable
/-!
# C07 — the quadrature accumulators are the exact derivative of the trapezoid cost of a segment

For a segment evaluated on dual numbers (duration `T`, segment start time `s₀`, coefficient block `C`, each with an
arbitrary tangent) and a running-cost functor that follows the documented protocol (`RunOK`: its reported gradients are
its partial derivatives in position … snap and in *global* time, no other time dependence),

    d(segment cost) = ⟨gdC, dC⟩ + gdT·dT + expl·ds₀

where `gdC`, `gdT`, `expl` are exactly the accumulators of the per-segment lambda of `calculateIntegralCost`
(`quadSegment`), for every order, dimension and number of steps.
-/
open ST

namespace QuadDual
variable {K : Type} [Field K]

def vre (v : Vec (Dual K)) : Vec K := v.map Dual.re
def vdu (v : Vec (Dual K)) : Vec K := v.map Dual.du

theorem foldl_vadd_re (S : List (Vec (Dual K))) (z : Vec (Dual K)) :
    vre (S.foldl vadd z) = (S.map vre).foldl vadd (vre z) := by
  rw [List.foldl_map]
  exact (List.foldl_hom vre (fun x y => by
    simp only [vre, vadd_eq_zipWith, List.map_zipWith, List.zipWith_map, Dual.add_re])).symm

theorem vscale_re (c : Dual K) (v : Vec (Dual K)) : vre (vscale c v) = vscale c.re (vre v) := by
  simp [vscale, vre, Function.comp_def]

theorem vzero_re (d : Nat) : vre (vzero d : Vec (Dual K)) = vzero d := by
  simp [vzero, vre]

theorem rtb_re (d : Nat) (b : List (Dual K)) (blk : List (Vec (Dual K))) :
    vre (rowTimesBlock d b blk) = rowTimesBlock d (b.map Dual.re) (blk.map vre) := by
  simp only [rowTimesBlock, foldl_vadd_re, List.map_zipWith, List.zipWith_map, vscale_re, vzero_re]

theorem rows_vre {R : Type} (d : Nat) (blk : List (Vec (Dual R))) (h : ∀ r ∈ blk, r.length = d) : ∀ r ∈ blk.map vre, r.length = d := by
  intro r hr; obtain ⟨r', hr', rfl⟩ := List.mem_map.mp hr; simp [vre, h r' hr']

theorem dot_vzero_left {R : Type} [DivRing R] (d : Nat) (x : Vec R) : dot (vzero d : Vec R) x = 0 := by
  simpa [vzero, lit_eq] using dot_replicate_zero d x

theorem dot_foldl {R : Type} [DivRing R] (g : Vec R) (n : Nat) (S : List (Vec R)) (z : Vec R) (hz : z.length = n)
    (hS : ∀ s ∈ S, s.length = n) : dot g (S.foldl vadd z) = dot g z + (S.map (dot g)).sum := by
  induction S generalizing z with
  | nil => simp
  | cons s S ih =>
    have hs : z.length = s.length := hz.trans (hS s (by simp)).symm
    rw [List.foldl_cons, ih (vadd z s) (by rw [vadd_length z s hs, hz]) (fun x hx => hS x (by simp [hx])),
      dot_comm, dot_vadd_left z s g hs, dot_comm z, dot_comm s]
    simp only [List.map_cons, List.sum_cons]; ring

theorem dot_re (x y : Vec (Dual K)) : (dot x y).re = dot (vre x) (vre y) := by
  induction x generalizing y with
  | nil => simp [dot, vre, lit_eq]
  | cons a x ih => cases y with
    | nil => simp [dot, vre, lit_eq]
    | cons b y => simp only [dot, vre, List.map_cons, Dual.add_re, Dual.mul_re] at ih ⊢; rw [ih]

theorem dot_du (x y : Vec (Dual K)) : (dot x y).du = dot (vre x) (vdu y) + dot (vdu x) (vre y) := by
  induction x generalizing y with
  | nil => simp [dot, vre, vdu, lit_eq]
  | cons a x ih => cases y with
    | nil => simp [dot, vre, vdu, lit_eq]
    | cons b y =>
      simp only [dot, vre, vdu, List.map_cons, Dual.add_du, Dual.mul_du] at ih ⊢
      rw [ih]; ring

theorem sum_du (l : List (Dual K)) : (ST.sum l).du = (l.map Dual.du).sum := by
  induction l with
  | nil => simp [ST.sum, lit_eq]
  | cons x xs ih => simp only [ST.sum, List.map_cons, List.sum_cons, ← ih]; dual_proj

theorem foldl_add_du (l : List (Dual K)) (a : Dual K) :
    (l.foldl (· + ·) a).du = a.du + ST.sum (l.map Dual.du) := by
  induction l generalizing a with
  | nil => simp [ST.sum, lit_eq]
  | cons x l ih =>
    rw [List.foldl_cons, ih, List.map_cons, ST.sum, Dual.add_du, add_assoc]

theorem rtb_summands_len {α : Type} [Num α] (d : Nat) (b : List α) (X : List (Vec α)) (hX : ∀ r ∈ X, r.length = d) :
    ∀ s ∈ List.zipWith (fun bk row => vscale bk row) b X, s.length = d := by
  intro s hs
  obtain ⟨i, hi, rfl⟩ := List.getElem_of_mem hs
  simp only [List.getElem_zipWith, vscale, List.length_map]
  exact hX _ (List.getElem_mem _)

/-- `⟨g, b·X⟩ = Σ_k b_k ⟨g, X_k⟩`, over the field and over its dual numbers -/
theorem dot_rtb {R : Type} [DivRing R] (d : Nat) (g : Vec R) (b : List R) (X : List (Vec R)) (hX : ∀ r ∈ X, r.length = d) :
    dot g (rowTimesBlock d b X) = dot b (X.map (dot g)) := by
  have hl := rtb_summands_len d b X hX
  rw [rowTimesBlock, dot_foldl g d _ _ (by simp [vzero]) hl, dot_comm, dot_vzero_left, zero_add]
  induction b generalizing X with
  | nil => simp [zipSum_dot.nil_left]
  | cons c b ih => cases X with
    | nil => simp [zipSum_dot.nil_right]
    | cons r X =>
      rw [List.zipWith_cons_cons, List.map_cons, List.sum_cons, List.map_cons, zipSum_dot.cons, dot_comm g, dot_vscale_left,
        dot_comm r, ih X (fun x hx => hX x (by simp [hx])) (fun x hx => hl x (by simp [hx]))]

theorem rtb_length {α : Type} [Num α] (d : Nat) (b : List α) (X : List (Vec α)) (hX : ∀ r ∈ X, r.length = d) :
    (rowTimesBlock d b X).length = d := by
  have hl := rtb_summands_len d b X hX
  rw [rowTimesBlock]
  generalize List.zipWith _ b X = S at hl
  have : ∀ z : Vec α, z.length = d → (S.foldl vadd z).length = d := by
    induction S with
    | nil => exact fun z hz => hz
    | cons s S ih =>
      intro z hz
      have hs := hl s (by simp)
      exact ih (fun x hx => hl x (by simp [hx])) _ (by rw [vadd_length z s (hz.trans hs.symm), hz])
  exact this _ (by simp [vzero])

/-- product rule for `b · C` paired with a real vector `g`: the dual part of `dot_rtb` over the dual numbers, at `g` taken
as a constant -/
theorem rtb_du_pair (d : Nat) (g : Vec K) (b : List (Dual K)) (blk : List (Vec (Dual K)))
    (hblk : ∀ r ∈ blk, r.length = d) :
    dot g (vdu (rowTimesBlock d b blk))
      = dot (b.map Dual.re) ((blk.map vdu).map (dot g)) + dot (b.map Dual.du) ((blk.map vre).map (dot g)) := by
  obtain ⟨G, hre, hdu⟩ : ∃ G : Vec (Dual K), vre G = g ∧ ∀ y, dot (vdu G) y = 0 :=
    ⟨g.map (fun a => ⟨a, 0⟩), by simp [vre, Function.comp_def], fun y => by
      simpa [vdu, Function.comp_def] using dot_replicate_zero g.length y⟩
  have h := congrArg Dual.du (dot_rtb d G b blk hblk)
  rw [dot_du, dot_du, hre, hdu, add_zero] at h
  have e1 : vdu (blk.map (dot G)) = (blk.map vdu).map (dot g) := by
    rw [vdu, List.map_map, List.map_map]
    exact List.map_congr_left (fun r _ => by simp only [Function.comp, dot_du, hre, hdu, add_zero])
  have e2 : vre (blk.map (dot G)) = (blk.map vre).map (dot g) := by
    rw [vre, List.map_map, List.map_map]
    exact List.map_congr_left (fun r _ => by simp only [Function.comp, dot_re, hre])
  rw [h, e1, e2]
  rfl

/-! ## blocks (nc × d) -/

def blockDot : List (Vec K) → List (Vec K) → K
  | a :: as, x :: xs => dot a x + blockDot as xs
  | _, _ => 0

theorem zipSum_blockDot : ZipSum (K := K) dot blockDot := ⟨fun _ => rfl, fun A => by cases A <;> rfl, fun _ _ _ _ => rfl⟩

theorem blockDot_eq_sum (A B : List (Vec K)) (n : Nat) (h : min A.length B.length ≤ n) :
    blockDot A B = ∑ i ∈ Finset.range n, dot (A.getD i []) (B.getD i []) :=
  zipSum_blockDot.eq_sum [] [] dot_nil_l dot_nil_r A B n h

theorem blockDot_map_range (n : Nat) (F : Nat → Vec K) (B : List (Vec K)) :
    blockDot ((List.range n).map F) B = ∑ i ∈ Finset.range n, dot (F i) (B.getD i []) :=
  zipSum_blockDot.map_range_left [] [] dot_nil_l dot_nil_r n F B

theorem blockDot_map_range_right (n : Nat) (A : List (Vec K)) (F : Nat → Vec K) :
    blockDot A ((List.range n).map F) = ∑ i ∈ Finset.range n, dot (A.getD i []) (F i) :=
  zipSum_blockDot.map_range_right [] [] dot_nil_l dot_nil_r n A F

def Shape (nc d : Nat) (A : List (Vec K)) : Prop := A.length = nc ∧ ∀ r ∈ A, r.length = d

/-- `Shape` at `Dual K`; the proofs use the row lengths only -/
def ShapeD (nc d : Nat) (A : List (Vec (Dual K))) : Prop := A.length = nc ∧ ∀ r ∈ A, r.length = d

/-- `g ↦ bᵀ g` is the adjoint of `X ↦ b · X` (with `dot_rtb`) -/
theorem blockDot_outer (b : List K) (g : Vec K) (X : List (Vec K)) : blockDot (outer b g) X = dot b (X.map (dot g)) := by
  induction b generalizing X with
  | nil => simp [outer, blockDot]
  | cons c b ih => cases X with
    | nil => simp [outer, blockDot]
    | cons x X =>
      have := ih X
      simp only [outer, List.map_cons, blockDot, dot_cons, dot_vscale_left] at this ⊢
      rw [this]

theorem blockDot_add {nc d : Nat} {A B X : List (Vec K)} (hA : Shape nc d A) (hB : Shape nc d B) :
    blockDot (blockAdd A B) X = blockDot A X + blockDot B X := by
  rw [blockAdd, zipSum_blockDot.zipWith_left vadd 1 (·.length = d)
    (fun a b x ha hb => by rw [dot_vadd_left a b x (ha.trans hb.symm), one_mul]) A B X (hA.1.trans hB.1.symm) hA.2 hB.2,
    one_mul]

theorem blockDot_scale (c : K) (A X : List (Vec K)) : blockDot (blockScale c A) X = c * blockDot A X :=
  zipSum_blockDot.map_left (vscale c) c (dot_vscale_left c) A X

theorem blockDot_zero (nc d : Nat) (X : List (Vec K)) : blockDot (List.replicate nc (vzero d : Vec K)) X = 0 :=
  zipSum_blockDot.replicate_left _ (dot_vzero_left d) nc X

theorem shape_outer (b : List K) (g : Vec K) : Shape b.length g.length (outer b g) :=
  ⟨by simp [outer], by intro r hr; obtain ⟨c, _, rfl⟩ := List.mem_map.mp hr; simp [vscale]⟩

theorem shape_blockAdd {nc d : Nat} {A B : List (Vec K)} (hA : Shape nc d A) (hB : Shape nc d B) :
    Shape nc d (blockAdd A B) := by
  refine ⟨by simp [blockAdd, hA.1, hB.1], ?_⟩
  intro r hr
  obtain ⟨i, hi, rfl⟩ := List.getElem_of_mem hr
  simp only [blockAdd, List.getElem_zipWith]
  rw [vadd_length _ _ (by rw [hA.2 _ (List.getElem_mem _), hB.2 _ (List.getElem_mem _)]), hA.2 _ (List.getElem_mem _)]

theorem shape_blockScale {nc d : Nat} (c : K) {A : List (Vec K)} (hA : Shape nc d A) : Shape nc d (blockScale c A) :=
  ⟨by simp [blockScale, hA.1], by
    intro r hr; obtain ⟨a, ha, rfl⟩ := List.mem_map.mp hr; simp [vscale, hA.2 a ha]⟩

theorem shape_zero (nc d : Nat) : Shape nc d (List.replicate nc (vzero d : Vec K)) :=
  ⟨by simp, by intro r hr; rw [List.eq_of_mem_replicate hr]; simp [vzero]⟩

/-! ## one quadrature node -/
section node

/-- the documented protocol of a running-cost functor: the reported gradients are the partial derivatives of the value
in position, velocity, acceleration, jerk, snap and *global* time; the value has no other dependence on time -/
structure RunOK (d : Nat) (runD : RunFn (Dual K)) (runR : RunFn K) : Prop where
  ok : ∀ (t tg : Dual K) (i : Nat) (p v a j s : Vec (Dual K)),
      (runD t tg i p v a j s).val.re = (runR t.re tg.re i (vre p) (vre v) (vre a) (vre j) (vre s)).val ∧
      (runD t tg i p v a j s).val.du
        = dot (runR t.re tg.re i (vre p) (vre v) (vre a) (vre j) (vre s)).gp (vdu p)
          + dot (runR t.re tg.re i (vre p) (vre v) (vre a) (vre j) (vre s)).gv (vdu v)
          + dot (runR t.re tg.re i (vre p) (vre v) (vre a) (vre j) (vre s)).ga (vdu a)
          + dot (runR t.re tg.re i (vre p) (vre v) (vre a) (vre j) (vre s)).gj (vdu j)
          + dot (runR t.re tg.re i (vre p) (vre v) (vre a) (vre j) (vre s)).gs (vdu s)
          + (runR t.re tg.re i (vre p) (vre v) (vre a) (vre j) (vre s)).gt * tg.du
  len : ∀ (t tg : K) (i : Nat) (p v a j s : Vec K),
      p.length = d → v.length = d → a.length = d → j.length = d → s.length = d →
      (runR t tg i p v a j s).gp.length = d ∧ (runR t tg i p v a j s).gv.length = d ∧
      (runR t tg i p v a j s).ga.length = d ∧ (runR t tg i p v a j s).gj.length = d ∧
      (runR t tg i p v a j s).gs.length = d

/-- invariant relating the dual run's cost accumulator to the real run's gradient accumulators -/
def AccRel (nc d : Nat) (dblk : List (Vec K)) (dT ds : K) (aD : SegAcc (Dual K)) (aR : SegAcc K) : Prop :=
  aD.cost.re = aR.cost ∧ aD.cost.du = blockDot aR.gdC dblk + aR.gdT * dT + aR.expl * ds ∧ Shape nc d aR.gdC

theorem node_re (o : Order) (d : Nat) (t : Dual K) (blk : List (Vec (Dual K))) (m : Nat) :
    vre (rowTimesBlock d ((basisRows o t).getD m []) blk)
      = rowTimesBlock d ((basisRows o t.re).getD m []) (blk.map vre) := by
  rw [rtb_re, basis_re]

theorem shape_outer_basis (o : Order) {d : Nat} (t : K) (m : Nat) (hm : m ≤ 5) {g : Vec K} (hg : g.length = d) :
    Shape o.coeffNum d (outer ((basisRows o t).getD m []) g) := by
  have := shape_outer ((basisRows o t).getD m []) g
  rwa [basis_len o t m hm, hg] at this

/-- derivative of the sample `row_m(t) · C` paired with a real vector `g`: through `C`, and through `t` (the next row) -/
theorem node_du (o : Order) (d : Nat) (t : Dual K) (blk : List (Vec (Dual K))) (hblk : ∀ r ∈ blk, r.length = d)
    (m : Nat) (hm : m ≤ 4) (g : Vec K) :
    dot g (vdu (rowTimesBlock d ((basisRows o t).getD m []) blk))
      = blockDot (outer ((basisRows o t.re).getD m []) g) (blk.map vdu)
        + t.du * dot g (rowTimesBlock d ((basisRows o t.re).getD (m + 1) []) (blk.map vre)) := by
  rw [rtb_du_pair d g _ blk hblk, basis_re, basis_du o t m hm, blockDot_outer,
    dot_rtb d g _ _ (rows_vre d blk hblk), zipSum_dot.map_left (· * t.du) t.du (fun a b => by ring)]

/-- the gradient block `g = Σ_m row_m(t)ᵀ g_m` of one node: the derivative of the five samples paired with `g_0 … g_4` is the
pairing of `g` with the tangent of `C`, plus `dt` times the drift term -/
theorem node_grad (o : Order) (d : Nat) (t : Dual K) (blk : List (Vec (Dual K))) (hblk : ∀ r ∈ blk, r.length = d)
    (gp gv ga gj gs : Vec K) (lp : gp.length = d) (lv : gv.length = d) (la : ga.length = d) (lj : gj.length = d)
    (ls : gs.length = d) :
    let x := fun m => rowTimesBlock d ((basisRows o t).getD m []) blk
    let row := fun m => (basisRows o t.re).getD m []
    let xR := fun m => rowTimesBlock d (row m) (blk.map vre)
    let g := blockAdd (blockAdd (blockAdd (blockAdd (outer (row 0) gp) (outer (row 1) gv)) (outer (row 2) ga))
      (outer (row 3) gj)) (outer (row 4) gs)
    Shape o.coeffNum d g ∧
    dot gp (vdu (x 0)) + dot gv (vdu (x 1)) + dot ga (vdu (x 2)) + dot gj (vdu (x 3)) + dot gs (vdu (x 4))
      = blockDot g (blk.map vdu)
        + t.du * (dot gp (xR 1) + dot gv (xR 2) + dot ga (xR 3) + dot gj (xR 4) + dot gs (xR 5)) := by
  intro x row xR g
  have hs := @shape_outer_basis K _ o d t.re
  have hg1 := shape_blockAdd (hs 0 (by omega) lp) (hs 1 (by omega) lv)
  have hg2 := shape_blockAdd hg1 (hs 2 (by omega) la)
  have hg3 := shape_blockAdd hg2 (hs 3 (by omega) lj)
  refine ⟨shape_blockAdd hg3 (hs 4 (by omega) ls), ?_⟩
  rw [blockDot_add hg3 (hs 4 (by omega) ls), blockDot_add hg2 (hs 3 (by omega) lj), blockDot_add hg1 (hs 2 (by omega) la),
    blockDot_add (hs 0 (by omega) lp) (hs 1 (by omega) lv),
    node_du o d t blk hblk 0 (by omega), node_du o d t blk hblk 1 (by omega), node_du o d t blk hblk 2 (by omega),
    node_du o d t blk hblk 3 (by omega), node_du o d t blk hblk 4 (by omega)]
  ring

variable [CharZero K]

/-- **one node**: the invariant is preserved by `quadStep` -/
theorem quadStep_dual (o : Order) (d K' : Nat) (runD : RunFn (Dual K)) (runR : RunFn K) (hrun : RunOK d runD runR)
    (i : Nat) (T s0 : Dual K) (blk : List (Vec (Dual K))) (hblk : ∀ r ∈ blk, r.length = d)
    (aD : SegAcc (Dual K)) (aR : SegAcc K) (h : AccRel o.coeffNum d (blk.map vdu) T.du s0.du aD aR) (k : Nat) :
    AccRel o.coeffNum d (blk.map vdu) T.du s0.du (quadStep o d K' runD i T s0 blk aD k).1
      (quadStep o d K' runR i T.re s0.re (blk.map vre) aR k).1 := by
  obtain ⟨hre, hdu, hshape⟩ := h
  -- the real run's node time and global time are the real parts of the dual run's
  have htre : (lit k * (lit 1 / lit K') * T.re : K) = (lit k * (lit 1 / lit K') * T : Dual K).re := by
    dual_proj; simp only [lit_eq]
  have htgre : (s0.re + (lit k * (lit 1 / lit K') * T : Dual K).re : K) = (s0 + lit k * (lit 1 / lit K') * T : Dual K).re := by
    dual_proj
  simp only [quadStep, AccRel, htre, htgre]
  generalize htdef : (lit k * (lit 1 / lit K') * T : Dual K) = t
  have htdu : t.du = (k : K) * (1 / (K' : K)) * T.du := by
    rw [← htdef]; dual_proj; push_cast; ring
  generalize hwD : (if (decide (k = 0) || decide (k = K')) = true then (litq 1 2 : Dual K) else lit 1) = wD
  generalize hwR : (if (decide (k = 0) || decide (k = K')) = true then (litq 1 2 : K) else lit 1) = wR
  have hw : wD.re = wR ∧ wD.du = 0 := by
    rw [← hwD, ← hwR]
    split_ifs
    · simp only [litq]; dual_proj; simp [lit_eq]
    · dual_proj; simp [lit_eq]
  -- the functor at the samples: value and derivative by the protocol, the real parts of the samples by `node_re`
  have hok := hrun.ok t (s0 + t) i
    (rowTimesBlock d ((basisRows o t).getD 0 []) blk) (rowTimesBlock d ((basisRows o t).getD 1 []) blk)
    (rowTimesBlock d ((basisRows o t).getD 2 []) blk) (rowTimesBlock d ((basisRows o t).getD 3 []) blk)
    (rowTimesBlock d ((basisRows o t).getD 4 []) blk)
  simp only [node_re] at hok
  generalize runD t (s0 + t) i _ _ _ _ _ = rD at hok ⊢
  have hxl := fun m => rtb_length d ((basisRows o t.re).getD m []) _ (rows_vre d blk hblk)
  have hlen := hrun.len t.re (s0 + t).re i _ _ _ _ _ (hxl 0) (hxl 1) (hxl 2) (hxl 3) (hxl 4)
  generalize runR t.re (s0 + t).re i _ _ _ _ _ = rR at hok hlen ⊢
  obtain ⟨hvre, hvdu⟩ := hok
  obtain ⟨lp, lv, la, lj, ls⟩ := hlen
  obtain ⟨hg, hnode⟩ := node_grad o d t blk hblk rR.gp rR.gv rR.ga rR.gj rR.gs lp lv la lj ls
  refine ⟨?_, ?_, shape_blockAdd hshape (shape_blockScale _ hg)⟩
  · dual_proj
    rw [hre, hvre, hw.1]; simp only [lit_eq]
  · dual_proj
    rw [hdu, hvdu, hnode, hw.1, hw.2, hvre, blockDot_add hshape (shape_blockScale _ hg), blockDot_scale]
    simp only [vdot, lit_eq, ST.Dual.add_du, htdu]
    push_cast
    ring

/-- **C07, one segment**: the derivative of the segment's trapezoid cost along any tangent of its coefficient block,
duration and start time is the pairing with the accumulators `gdC`, `gdT`, `expl` of `calculateIntegralCost` -/
theorem quadSegment_dual (o : Order) (d K' : Nat) (runD : RunFn (Dual K)) (runR : RunFn K) (hrun : RunOK d runD runR)
    (i : Nat) (T s0 : Dual K) (blk : List (Vec (Dual K))) (hblk : ∀ r ∈ blk, r.length = d) :
    (quadSegment o d K' runD i T s0 blk).1.cost.re = (quadSegment o d K' runR i T.re s0.re (blk.map vre)).1.cost ∧
    (quadSegment o d K' runD i T s0 blk).1.cost.du
      = blockDot (quadSegment o d K' runR i T.re s0.re (blk.map vre)).1.gdC (blk.map vdu)
        + (quadSegment o d K' runR i T.re s0.re (blk.map vre)).1.gdT * T.du
        + (quadSegment o d K' runR i T.re s0.re (blk.map vre)).1.expl * s0.du := by
  have h0 : AccRel o.coeffNum d (blk.map vdu) T.du s0.du
      (⟨lit 0, lit 0, lit 0, List.replicate o.coeffNum (vzero d)⟩ : SegAcc (Dual K))
      (⟨lit 0, lit 0, lit 0, List.replicate o.coeffNum (vzero d)⟩ : SegAcc K) := by
    refine ⟨by simp [lit_eq], ?_, shape_zero _ _⟩
    simp only [blockDot_zero]; dual_proj; simp [lit_eq]
  suffices h : AccRel o.coeffNum d (blk.map vdu) T.du s0.du (quadSegment o d K' runD i T s0 blk).1
      (quadSegment o d K' runR i T.re s0.re (blk.map vre)).1 from ⟨h.1, h.2.1⟩
  exact List.foldl_rel
    (r := fun (stD : SegAcc (Dual K) × List (Sample (Dual K))) (stR : SegAcc K × List (Sample K)) =>
      AccRel o.coeffNum d (blk.map vdu) T.du s0.du stD.1 stR.1) h0
    (fun k _ stD stR h => quadStep_dual o d K' runD runR hrun i T s0 blk hblk stD.1 stR.1 h k)

end node

/-! ## all segments: explicit time dependence through the segment start times -/
section spline

theorem suffixAdd_cons (e : K) (es : List K) : suffixAdd (e :: es) = ST.sum es :: suffixAdd es := by
  induction es generalizing e with
  | nil => simp [suffixAdd, ST.sum, lit_eq]
  | cons e' es ih =>
    have := ih e'
    rw [suffixAdd, this]
    · simp [ST.sum]
    · simp

@[simp] theorem suffixAdd_length (l : List K) : (suffixAdd l).length = l.length := by
  induction l with
  | nil => simp [suffixAdd]
  | cons e es ih => rw [suffixAdd_cons]; simp [ih]

@[simp] theorem segStarts_length {α : Type} [Num α] (t : α) (l : List α) : (segStarts t l).length = l.length := by
  induction l generalizing t with
  | nil => simp [segStarts]
  | cons a l ih => simp [segStarts, ih]

theorem segStarts_re (t : Dual K) (l : List (Dual K)) : (segStarts t l).map Dual.re = segStarts t.re (l.map Dual.re) := by
  induction l generalizing t with
  | nil => rfl
  | cons a l ih => simp only [segStarts, List.map_cons, ih]; rfl

/-- the suffix loop that closes `calculateIntegralCost`: `start_i = t₀ + Σ_{j<i} T_j`, so `T_j` collects the `expl` of every
later segment -/
theorem starts_du (t0 : Dual K) (Ts : List (Dual K)) (expl : List K) (hl : expl.length = Ts.length) :
    dot expl ((segStarts t0 Ts).map Dual.du) = ST.sum expl * t0.du + dot (suffixAdd expl) (Ts.map Dual.du) := by
  induction Ts generalizing t0 expl with
  | nil => match expl, hl with
    | [], _ => simp [ST.sum, suffixAdd, dot, lit_eq]
  | cons T Ts ih =>
    match expl, hl with
    | e :: es, hl =>
      have := ih (t0 + T) es (by simpa using hl)
      rw [segStarts, List.map_cons, dot_cons, this, suffixAdd_cons, List.map_cons, dot_cons]
      simp only [ST.sum, Dual.add_du]
      ring

/-- the per-segment accumulators of all segments (`i` = index of the first one) -/
def intAcc {α : Type} [Num α] (o : Order) (d K' : Nat) (run : RunFn α) :
    Nat → List α → List α → List (List (Vec α)) → List (SegAcc α)
  | i, T :: Ts, s :: ss, b :: bs => (quadSegment o d K' run i T s b).1 :: intAcc o d K' run (i + 1) Ts ss bs
  | _, _, _, _ => []

def blockDotL : List (List (Vec K)) → List (List (Vec K)) → K
  | a :: as, x :: xs => blockDot a x + blockDotL as xs
  | _, _ => 0

theorem zipSum_blockDotL : ZipSum (K := K) blockDot blockDotL := ⟨fun _ => rfl, fun A => by cases A <;> rfl, fun _ _ _ _ => rfl⟩

theorem blockDotL_map_range_right (n : Nat) (A : List (List (Vec K))) (F : Nat → List (Vec K)) :
    blockDotL A ((List.range n).map F) = ∑ i ∈ Finset.range n, blockDot (A.getD i []) (F i) :=
  zipSum_blockDotL.map_range_right [] [] (fun _ => rfl) (fun x => by cases x <;> rfl) n A F

variable [CharZero K]

theorem intAcc_dual (o : Order) (d K' : Nat) (runD : RunFn (Dual K)) (runR : RunFn K) (hrun : RunOK d runD runR)
    (i : Nat) (Ts ss : List (Dual K)) (blks : List (List (Vec (Dual K))))
    (hs : ss.length = Ts.length) (hb : blks.length = Ts.length) (hblk : ∀ b ∈ blks, ∀ r ∈ b, r.length = d) :
    let aD := intAcc o d K' runD i Ts ss blks
    let aR := intAcc o d K' runR i (Ts.map Dual.re) (ss.map Dual.re) (blks.map (·.map vre))
    ST.sum (aD.map (·.cost.re)) = ST.sum (aR.map (·.cost)) ∧
    ST.sum (aD.map (·.cost.du))
      = blockDotL (aR.map (·.gdC)) (blks.map (·.map vdu)) + dot (aR.map (·.gdT)) (Ts.map Dual.du)
        + dot (aR.map (·.expl)) (ss.map Dual.du) ∧
    aR.length = Ts.length := by
  induction Ts generalizing i ss blks with
  | nil => match ss, blks, hs, hb with
    | [], [], _, _ => simp [intAcc, ST.sum, blockDotL]
  | cons T Ts ih =>
    match ss, blks, hs, hb with
    | s :: ss', b :: bs', hs, hb =>
      obtain ⟨h1, h2, h3⟩ := ih (i + 1) ss' bs' (by simpa using hs) (by simpa using hb)
        (fun x hx => hblk x (by simp [hx]))
      obtain ⟨q1, q2⟩ := quadSegment_dual o d K' runD runR hrun i T s b (hblk b (by simp))
      simp only [intAcc, List.map_cons, ST.sum, blockDotL, dot_cons, List.length_cons] at h1 h2 h3 ⊢
      refine ⟨by rw [h1, q1], ?_, by rw [h3]⟩
      rw [h2, q2]; ring

/-- **C07, the integral term of the cost**: total trapezoid cost of all segments, differentiated along any tangent of
the coefficients, the durations and the start time, equals the pairing with `gdC`, `gdT + suffixAdd expl` and `Σ expl` -/
theorem integral_cost_dual (o : Order) (d K' : Nat) (runD : RunFn (Dual K)) (runR : RunFn K) (hrun : RunOK d runD runR)
    (t0 : Dual K) (Ts : List (Dual K)) (blks : List (List (Vec (Dual K))))
    (hb : blks.length = Ts.length) (hblk : ∀ b ∈ blks, ShapeD o.coeffNum d b) :
    let aD := intAcc o d K' runD 0 Ts (segStarts t0 Ts) blks
    let aR := intAcc o d K' runR 0 (Ts.map Dual.re) (segStarts t0.re (Ts.map Dual.re)) (blks.map (·.map vre))
    ST.sum (aD.map (·.cost.re)) = ST.sum (aR.map (·.cost)) ∧
    ST.sum (aD.map (·.cost.du))
      = blockDotL (aR.map (·.gdC)) (blks.map (·.map vdu))
        + dot (zipAdd (aR.map (·.gdT)) (suffixAdd (aR.map (·.expl)))) (Ts.map Dual.du)
        + ST.sum (aR.map (·.expl)) * t0.du := by
  obtain ⟨h1, h2, h3⟩ := intAcc_dual o d K' runD runR hrun 0 Ts (segStarts t0 Ts) blks (segStarts_length t0 Ts) hb
    (fun b hb => (hblk b hb).2)
  simp only [segStarts_re] at h1 h2 h3
  intro aD aR
  refine ⟨h1, ?_⟩
  have hel : (aR.map (·.expl)).length = Ts.length := by simp [aR, h3]
  have hgl : (aR.map (·.gdT)).length = Ts.length := by simp [aR, h3]
  rw [h2, starts_du t0 Ts _ hel, zipAdd_eq_vadd, dot_vadd_left _ _ _ (by rw [suffixAdd_length, hgl, hel])]
  ring

/-- `evaluate` computes exactly these accumulators (it maps over `range n` with `getD`) -/
theorem intAcc_eq_range {α : Type} [Num α] (o : Order) (d K' : Nat) (run : RunFn α) (n : Nat)
    (Ts ss : List α) (bs : List (List (Vec α))) (hT : Ts.length = n) (hs : ss.length = n) (hb : bs.length = n) (i0 : Nat) :
    intAcc o d K' run i0 Ts ss bs
      = (List.range n).map (fun i =>
          (quadSegment o d K' run (i0 + i) (Ts.getD i (lit 0)) (ss.getD i (lit 0)) (bs.getD i [])).1) := by
  induction n generalizing Ts ss bs i0 with
  | zero =>
    match Ts, ss, bs, hT, hs, hb with
    | [], [], [], _, _, _ => simp [intAcc]
  | succ n ih =>
    match Ts, ss, bs, hT, hs, hb with
    | T :: Ts', s :: ss', b :: bs', hT, hs, hb =>
      rw [intAcc, ih Ts' ss' bs' (by simpa using hT) (by simpa using hs) (by simpa using hb) (i0 + 1),
        List.range_succ_eq_map, List.map_cons, List.map_map]
      simp only [List.getD_cons_zero, add_zero, List.cons.injEq, true_and]
      apply List.map_congr_left
      intro i _
      simp only [Function.comp, List.getD_cons_succ]
      congr 2
      omega

end spline

end QuadDual
