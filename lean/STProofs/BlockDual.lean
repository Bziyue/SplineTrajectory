import STProofs.BlockThomas
import Mathlib.Data.List.Forall2
/-!
# Block systems: what depends on the matrix only, and the differentiated system over the dual numbers

* Pivots, the cached factors `D⁻¹`, `U`, `L` and the transposed solve read the matrix of a system, not its
  right-hand sides (`SameMat`, `bpivOK2_congr`, `bsolveT_congr`).
* Pairing a list of adjoint variables with right-hand sides from which end values were removed (`ipSum_dirL`, `ipSum_dirR`).
* Real / dual parts of blocks over the dual numbers (`DualLaws`): the dual parts of a solution solve the real system
  with right-hand side `b' − A'·x` (`bsolvesE_du`).
* Together with `bsolveT_adjoint`: the adjoint method for a system with prescribed end values (`bsolvesE_adjoint`), which is
  what the quintic / septic adjoint theorems instantiate.
-/
open ST

section rows
variable {R V : Type}

def BRow.mat (r : BRow R V) : R × R × R := (r.l, r.d, r.u)

abbrev SameMat (rows rows' : List (BRow R V)) : Prop := rows.map BRow.mat = rows'.map BRow.mat

/-- same matrix, other right-hand sides -/
def withB : List (BRow R V) → List V → List (BRow R V)
  | r :: rs, b :: bs => ⟨r.l, r.d, r.u, b⟩ :: withB rs bs
  | _, _ => []

@[simp] theorem withB_length (rows : List (BRow R V)) (b : List V) : (withB rows b).length = min rows.length b.length := by
  induction rows generalizing b with
  | nil => cases b <;> exact (Nat.zero_min _).symm
  | cons r rs ih =>
    cases b with
    | nil => rfl
    | cons b0 bs => simp only [withB, List.length_cons, ih, Nat.succ_min_succ]

theorem withB_mat (rows : List (BRow R V)) (b : List V) (hb : b.length = rows.length) : SameMat (withB rows b) rows := by
  induction rows generalizing b with
  | nil => cases b <;> rfl
  | cons r rs ih =>
    match b, hb with
    | b0 :: bs, hb => exact congrArg (List.cons (BRow.mat r)) (ih bs (Nat.succ.inj hb))

theorem withB_b (rows : List (BRow R V)) (b : List V) (hb : b.length = rows.length) : (withB rows b).map (·.b) = b := by
  induction rows generalizing b with
  | nil => cases b <;> simp_all [withB]
  | cons r rs ih =>
    match b, hb with
    | b0 :: bs, hb => exact congrArg (List.cons b0) (ih bs (Nat.succ.inj hb))

theorem SameMat.map_l {a b : List (BRow R V)} (h : SameMat a b) : a.map (·.l) = b.map (·.l) := by
  simpa [BRow.mat, Function.comp_def] using congrArg (List.map (·.1)) h
theorem SameMat.map_u {a b : List (BRow R V)} (h : SameMat a b) : a.map (·.u) = b.map (·.u) := by
  simpa [BRow.mat, Function.comp_def] using congrArg (List.map (·.2.2)) h

/-- the form in which the inductions below use it -/
theorem SameMat.forall₂ {a b : List (BRow R V)} (h : SameMat a b) :
    List.Forall₂ (fun x y => x.l = y.l ∧ x.d = y.d ∧ x.u = y.u) a b := by
  rw [SameMat, ← List.forall₂_eq_eq_eq, List.forall₂_map_left_iff, List.forall₂_map_right_iff] at h
  exact h.imp fun x y e => by simpa [BRow.mat] using e

end rows

section mat
variable {R V : Type} [Ring R] [AddCommGroup V] [Module R V] (inv tr : R → R)

theorem dirL_mat (x : V) (rows : List (BRow R V)) : SameMat (dirL x rows) rows := by cases rows <;> rfl

theorem dirR_mat (x : V) (rows : List (BRow R V)) : SameMat (dirR x rows) rows := by
  induction rows with
  | nil => rfl
  | cons r rs ih => cases rs <;> simp_all [SameMat, dirR, BRow.mat]

/-- the next elimination step reads `D⁻¹` and `U` of the previous fact -/
theorem bpivOK2_congr_some {p p' : BFact R V} {rows rows' : List (BRow R V)} (hd : p.dinv = p'.dinv) (hu : p.u = p'.u)
    (hm : List.Forall₂ (fun x y => x.l = y.l ∧ x.d = y.d ∧ x.u = y.u) rows rows') (h : BPivOK2 inv (some p) rows) :
    BPivOK2 inv (some p') rows' := by
  induction hm generalizing p p' with
  | nil => trivial
  | cons hab _ ih =>
    obtain ⟨e1, e2, e3⟩ := hab
    exact ⟨by rw [← e1, ← e2, ← hd, ← hu]; exact h.1, ih (by rw [e1, e2, hd, hu]) e3 h.2⟩

theorem bpivOK2_congr {rows rows' : List (BRow R V)} (hm : SameMat rows rows') (h : BPivOK2 inv none rows) :
    BPivOK2 inv none rows' :=
  (bpivOK2_none inv _).mpr (bpivOK2_congr_some inv rfl rfl hm.forall₂ ((bpivOK2_none inv _).mp h))

/-- the transposed sweeps use only the cached `D⁻¹`, `U`, `L` of the facts, not the modified right-hand sides -/
def sameLU (fs fs' : List (BFact R V)) : Prop :=
  List.Forall₂ (fun a b => a.dinv = b.dinv ∧ a.u = b.u ∧ a.l = b.l) fs fs'

theorem bfwd_sameLU {p p' : BFact R V} {rows rows' : List (BRow R V)} (hd : p.dinv = p'.dinv) (hu : p.u = p'.u)
    (hm : List.Forall₂ (fun x y => x.l = y.l ∧ x.d = y.d ∧ x.u = y.u) rows rows') :
    sameLU (@bfwd _ _ (ringBlk inv tr) (some p) rows) (@bfwd _ _ (ringBlk inv tr) (some p') rows') := by
  induction hm generalizing p p' with
  | nil => exact .nil
  | cons hab _ ih =>
    obtain ⟨e1, e2, e3⟩ := hab
    simp only [bfwd, BlkOps.inv, BlkOps.sub, BlkOps.mul]
    exact .cons ⟨by rw [e1, e2, hd, hu], e3, e1⟩ (ih (by rw [e1, e2, hd, hu]) e3)

theorem bfwdT_congr {fs fs' : List (BFact R V)} (h : sameLU fs fs') (g : List V) {p p' : BFact R V} (l : V) (hu : p.u = p'.u) :
    @bfwdT _ _ (ringBlk inv tr) (some (p, l)) fs g = @bfwdT _ _ (ringBlk inv tr) (some (p', l)) fs' g := by
  induction h generalizing p p' l g with
  | nil => cases g <;> simp [bfwdT]
  | cons hab _ ih =>
    obtain ⟨e1, e2, e3⟩ := hab
    cases g with
    | nil => simp [bfwdT]
    | cons g0 gs =>
      simp only [bfwdT, BlkOps.act, BlkOps.tr, BlkOps.vsub, e1, hu]
      congr 1
      exact ih gs _ e2

theorem bbackT_congr {fs fs' : List (BFact R V)} (h : sameLU fs fs') (y : List V) :
    @bbackT _ _ (ringBlk inv tr) fs y = @bbackT _ _ (ringBlk inv tr) fs' y := by
  induction h generalizing y with
  | nil => cases y <;> simp [bbackT]
  | cons hab htl ih =>
    obtain ⟨e1, e2, e3⟩ := hab
    cases htl with
    | nil => cases y with
      | nil => simp [bbackT]
      | cons y0 ys => cases ys <;> simp [bbackT]
    | cons hab2 htl2 =>
      obtain ⟨f1, f2, f3⟩ := hab2
      cases y with
      | nil => simp [bbackT]
      | cons y0 ys =>
        have := ih ys
        simp only [bbackT, this, BlkOps.act, BlkOps.tr, BlkOps.vsub, BlkOps.mul, e1, f3]

theorem bsolveT_congr {rows rows' : List (BRow R V)} (hm : SameMat rows rows') (g : List V) :
    @bsolveT _ _ (ringBlk inv tr) (@bfwd _ _ (ringBlk inv tr) none rows) g
      = @bsolveT _ _ (ringBlk inv tr) (@bfwd _ _ (ringBlk inv tr) none rows') g := by
  have h := bfwd_sameLU inv tr (p := fact0) rfl rfl hm.forall₂
  simp only [bsolveT, bfwd_none, bfwdT_none inv (tr := tr) fact0]
  rw [bfwdT_congr inv tr h g 0 rfl, bbackT_congr inv tr h]

end mat

theorem ipSum_append {V S : Type} [AddCommGroup S] {ip : V → V → S} (as bs as' bs' : List V) (h : as.length = bs.length) :
    ipSum ip (as ++ as') (bs ++ bs') = ipSum ip as bs + ipSum ip as' bs' := by
  induction as generalizing bs with
  | nil => match bs, h with
    | [], _ => simp [ipSum]
  | cons a as ih => match bs, h with
    | b :: bs, h => simp only [List.cons_append, ipSum, ih bs (by simpa using h), add_assoc]

section pair
variable {R V S : Type} [Ring R] [AddCommGroup V] [Module R V] [AddCommGroup S] {tr : R → R} {ip : V → V → S}

/-- right-hand sides after `dirL`: the first adjoint variable picks up `⟨λ₀, L₀ x⟩` -/
theorem ipSum_dirL (h : IsPairing tr ip) (x : V) (rows : List (BRow R V)) (lams : List V) :
    ipSum ip lams ((dirL x rows).map (·.b))
      = ipSum ip lams (rows.map (·.b)) - ip (lams.headD 0) ((rows.map (·.l)).headD 0 • x) := by
  match lams, rows with
  | [], _ => simp [ipSum, h.zero_left]
  | _ :: _, [] => simp [ipSum, dirL, h.zero_right]
  | l :: ls, r :: rs => simp only [dirL, List.map_cons, ipSum, h.sub_right, List.headD_cons]; abel

/-- right-hand sides after `dirR`: the last adjoint variable picks up `⟨λ_last, U_last x⟩` -/
theorem ipSum_dirR (h : IsPairing tr ip) (x : V) (rows : List (BRow R V)) (lams : List V) (hl : lams.length = rows.length) :
    ipSum ip lams ((dirR x rows).map (·.b))
      = ipSum ip lams (rows.map (·.b)) - ip (lams.getLastD 0) ((rows.map (·.u)).getLastD 0 • x) := by
  induction rows generalizing lams with
  | nil => match lams, hl with
    | [], _ => simp [ipSum, h.zero_left]
  | cons r rs ih =>
    match lams, hl with
    | l :: ls, hl =>
      match rs, ls, hl with
      | [], [], _ => simp only [dirR, List.map_cons, List.map_nil, ipSum, h.sub_right, List.getLastD_cons, List.getLastD_nil]; abel
      | r' :: rs, l' :: ls, hl =>
        have := ih (l' :: ls) (by simpa using hl)
        simp only [dirR, List.map_cons, ipSum, List.getLastD_cons] at this ⊢
        rw [this]; abel

end pair

/-- what the real / dual part maps of blocks `RD` acting on vectors `VD` over the dual numbers satisfy: the real part is a
homomorphism, the dual part obeys the product rule -/
structure DualLaws {RD VD R V : Type} [Ring RD] [AddCommGroup VD] [Module RD VD] [Ring R] [AddCommGroup V] [Module R V]
    (reR duR : RD → R) (reV duV : VD → V) : Prop where
  smul_re : ∀ a v, reV (a • v) = reR a • reV v
  smul_du : ∀ a v, duV (a • v) = reR a • duV v + duR a • reV v
  add_re : ∀ v w, reV (v + w) = reV v + reV w
  add_du : ∀ v w, duV (v + w) = duV v + duV w

section dual
variable {RD VD R V : Type} [Ring RD] [AddCommGroup VD] [Module RD VD] [Ring R] [AddCommGroup V] [Module R V]
  {reR duR : RD → R} {reV duV : VD → V}

theorem DualLaws.sub_re (L : DualLaws reR duR reV duV) (v w : VD) : reV (v - w) = reV v - reV w := by
  rw [eq_sub_iff_add_eq, ← L.add_re, sub_add_cancel]
theorem DualLaws.zero_re (L : DualLaws reR duR reV duV) : reV 0 = 0 := by
  have := L.add_re 0 0
  rwa [add_zero, left_eq_add] at this
theorem DualLaws.zero_du (L : DualLaws reR duR reV duV) : duV 0 = 0 := by
  have := L.add_du 0 0
  rwa [add_zero, left_eq_add] at this

theorem dirL_re (L : DualLaws reR duR reV duV) (x : VD) (rows : List (BRow RD VD)) :
    (dirL x rows).map (BRow.map reR reV) = dirL (reV x) (rows.map (BRow.map reR reV)) := by
  cases rows <;> simp [dirL, BRow.map, L.sub_re, L.smul_re]
theorem dirR_re (L : DualLaws reR duR reV duV) (x : VD) (rows : List (BRow RD VD)) :
    (dirR x rows).map (BRow.map reR reV) = dirR (reV x) (rows.map (BRow.map reR reV)) := by
  induction rows with
  | nil => rfl
  | cons r rs ih => cases rs <;> simp_all [dirR, BRow.map, L.sub_re, L.smul_re]

/-- right-hand side of the differentiated system `A·dX = b' − A'·X`, row by row -/
def rhoE (duR : RD → R) (duV : VD → V) : V → List (BRow RD VD) → List V → V → List V
  | xp, r :: rs, x :: xs, xn =>
      (duV r.b - (duR r.l • xp + duR r.d • x + duR r.u • xs.headD xn)) :: rhoE duR duV x rs xs xn
  | _, _, _, _ => []

@[simp] theorem rhoE_length (xp : V) (rows : List (BRow RD VD)) (xs : List V) (xn : V) :
    (rhoE duR duV xp rows xs xn).length = min rows.length xs.length := by
  induction rows generalizing xp xs with
  | nil => cases xs <;> exact (Nat.zero_min _).symm
  | cons r rs ih =>
    cases xs with
    | nil => rfl
    | cons x xs => simp only [rhoE, List.length_cons, ih, Nat.succ_min_succ]

/-- **the differentiated system**: the dual parts of a solution over the dual numbers solve the real system with
right-hand side `b' − A'·x` -/
theorem bsolvesE_du (L : DualLaws reR duR reV duV) (xp xn : VD) (rows : List (BRow RD VD)) (xs : List VD)
    (h : BSolvesE xp rows xs xn) :
    BSolvesE (duV xp) (withB (rows.map (BRow.map reR reV)) (rhoE duR duV (reV xp) rows (xs.map reV) (reV xn)))
      (xs.map duV) (duV xn) := by
  induction rows generalizing xp xs with
  | nil => cases xs <;> simp_all [BSolvesE, withB, rhoE]
  | cons r rs ih =>
    cases xs with
    | nil => simp [BSolvesE] at h
    | cons x xs =>
      obtain ⟨hrow, hrest⟩ := h
      simp only [List.map_cons, rhoE, withB, BSolvesE]
      refine ⟨?_, ih x xs hrest⟩
      have := congrArg duV hrow
      simp only [L.add_du, L.smul_du] at this
      simp only [BRow.map, List.headD_map]
      rw [← this]; abel

/-- **the adjoint method for a block system with prescribed end values**: if `xs` solves the system `rows` over the dual
numbers between the end values `xL`, `xR`, then pairing any `g` with the dual parts of `xs` is pairing the adjoint variables
`λ = A⁻ᵀ g` — computed by the transposed sweeps from the factors of the *real* system with the end values moved to the
right-hand side (any right-hand side: the sweeps read the matrix only) — with the differentiated rows, less the two boundary
corrections `⟨λ_first, L₀ dx_L⟩`, `⟨λ_last, U_last dx_R⟩` -/
theorem bsolvesE_adjoint {S : Type} [AddCommGroup S] {ip : V → V → S} {tr : R → R} (inv : R → R)
    (L : DualLaws reR duR reV duV) (hp : IsPairing tr ip) (xL xR : VD) (rows : List (BRow RD VD)) (xs : List VD)
    (h : BSolvesE xL rows xs xR) (rowsR : List (BRow R V)) (hm : SameMat rowsR (rows.map (BRow.map reR reV)))
    (hpiv : BPivOK2 inv none rowsR) (g : List V) (hg : g.length = rows.length) (hx : xs.length = rows.length) :
    ipSum ip g (xs.map duV)
      = ipSum ip (@bsolveT _ _ (ringBlk inv tr) (@bfwd _ _ (ringBlk inv tr) none rowsR) g)
          (rhoE duR duV (reV xL) rows (xs.map reV) (reV xR))
        - ip ((@bsolveT _ _ (ringBlk inv tr) (@bfwd _ _ (ringBlk inv tr) none rowsR) g).headD 0)
            ((rowsR.map (·.l)).headD 0 • duV xL)
        - ip ((@bsolveT _ _ (ringBlk inv tr) (@bfwd _ _ (ringBlk inv tr) none rowsR) g).getLastD 0)
            ((rowsR.map (·.u)).getLastD 0 • duV xR) := by
  have hdu := (bsolves_dirichlet _ _ _ _).mpr (bsolvesE_du L xL xR rows xs h)
  set rho := rhoE duR duV (reV xL) rows (xs.map reV) (reV xR) with hrho
  have hrholen : rho.length = (rows.map (BRow.map reR reV)).length := by simp [rho, hx]
  have hlen : rowsR.length = rows.length := by simpa using congrArg List.length hm
  -- the system the dual parts solve has the matrix of `rowsR` …
  have hB : SameMat (withB (rows.map (BRow.map reR reV)) rho) rowsR := (withB_mat _ _ hrholen).trans hm.symm
  have hmat : SameMat rowsR (dirR (duV xR) (dirL (duV xL) (withB (rows.map (BRow.map reR reV)) rho))) := by
    rw [SameMat, dirR_mat, dirL_mat]; exact hB.symm
  -- … so the sweeps on `rowsR` give its adjoint variables; what is left is its right-hand sides, paired with them
  rw [bsolveT_adjoint inv hp _ (bpivOK2_congr inv hmat hpiv) _ g hdu (by simp [hg, hrholen]), ← bsolveT_congr inv tr hmat,
    ipSum_dirR hp _ _ _ (by rw [@bsolveT_length _ _ (ringBlk inv tr) _ _ (by simp [hg, hlen])]; simp [hrholen, hlen]), ipSum_dirL hp,
    withB_b _ _ hrholen, (dirL_mat (duV xL) _).map_u, hB.map_u, hB.map_l]

end dual
