import STProofs.RoundTrip
/-!
# Pinning for an arbitrary scalar type — in particular IEEE doubles (C09)

`decode_pinned_waypoint` / `decode_pinned_block` use no law of arithmetic (the argument is in `RoundTrip.lean`, for any
`Num α`): for every scalar type carrying the model's operations, and for **every** decision vector (of any length, with any
entries — NaN included at `Float`), a waypoint that is not optimised and a boundary block that is not flagged (or is gated by
the order) come out of `decode` as the reference data, untouched: at `Float`, bit for bit.
-/
open ST
set_option linter.unusedSectionVars false

namespace AnyNum
section
variable {K : Type} [NumOrd K]

theorem decode_pinned_waypoint (c : Config K) (x : List K) (i : Nat) (hn : 0 < c.n)
    (hi : spatialOptimized c.flags c.n i = false) :
    (decode c x).waypoints.getD i [] = c.refWaypoints.getD i [] :=
  EvaluateGrad.decode_pinned_wp c x i (by omega) hi

theorem decode_pinned_block (c : Config K) (x : List K) (b : DBlock) (hb : b ∉ derivBlocks c.order c.flags) :
    (decode c x).bc.getBlock b = c.refBC.getBlock b :=
  EvaluateGrad.decode_pinned_blk c x b hb

end

theorem decode_pinned_float (c : Config Float) (x : List Float) (hn : 0 < c.n) :
    (∀ i, spatialOptimized c.flags c.n i = false → (decode c x).waypoints.getD i [] = c.refWaypoints.getD i []) ∧
    (∀ b, b ∉ derivBlocks c.order c.flags → (decode c x).bc.getBlock b = c.refBC.getBlock b) :=
  ⟨fun i hi => decode_pinned_waypoint c x i hn hi, fun b hb => decode_pinned_block c x b hb⟩

end AnyNum
