import STProofs.Hermite
import STProofs.CubicKKT
import STProofs.SamplesAny
/-!
# Cost decomposition and sample fidelity of `evaluate` (C08)

* the basis rows of every order, dotted with a coefficient column, are the value and the first five derivatives of
  that polynomial (so the `p, v, a, j, s` handed to the running cost are those of the decoded trajectory);
* each quadrature node `k` of segment `i` is sampled at local time `(k/K)·T_i`, global time `start_i + (k/K)·T_i`, with
  trapezoid weight `½` at `k = 0, K` and `1` otherwise, times `T_i/K`;
* the returned cost is time cost + Σ segment integrals + waypoint cost + (ρ·energy if ρ > 0).
-/
open ST

section basis
variable {K : Type} [Field K]

theorem basis_cubic (c : Cubic.C4 K) (t : K) :
    let B := basisRows (α := K) .cubic t
    dot (B.getD 0 []) c.toList = ev c t ∧ dot (B.getD 1 []) c.toList = ev1 c t ∧ dot (B.getD 2 []) c.toList = ev2 c t ∧
    dot (B.getD 3 []) c.toList = 6 * c.c3 ∧ dot (B.getD 4 []) c.toList = 0 ∧ dot (B.getD 5 []) c.toList = 0 := by
  simp only [basisRows, Cubic.C4.toList, List.getD_cons_zero, List.getD_cons_succ, dot, ev, ev1, ev2, lit_eq]
  push_cast
  refine ⟨by ring, by ring, by ring, by ring, by ring, by ring⟩

variable [CharZero K]

theorem basis_quintic (c : Quintic.C6 K) (t : K) :
    let B := basisRows (α := K) .quintic t
    dot (B.getD 0 []) c.toList = q_ev c t ∧ dot (B.getD 1 []) c.toList = q_ev1 c t ∧ dot (B.getD 2 []) c.toList = q_ev2 c t ∧
    dot (B.getD 3 []) c.toList = q_ev3 c t ∧ dot (B.getD 4 []) c.toList = q_ev4 c t ∧ dot (B.getD 5 []) c.toList = 120 * c.c5 := by
  simp only [basisRows, Quintic.C6.toList, List.getD_cons_zero, List.getD_cons_succ, dot, q_ev, q_ev1, q_ev2, q_ev3, q_ev4, lit_eq]
  push_cast
  refine ⟨by ring, by ring, by ring, by ring, by ring, by ring⟩

theorem basis_septic (c : Septic.C8 K) (t : K) :
    let B := basisRows (α := K) .septic t
    dot (B.getD 0 []) c.toList = s_ev c t ∧ dot (B.getD 1 []) c.toList = s_ev1 c t ∧ dot (B.getD 2 []) c.toList = s_ev2 c t ∧
    dot (B.getD 3 []) c.toList = s_ev3 c t ∧ dot (B.getD 4 []) c.toList = s_ev4 c t ∧ dot (B.getD 5 []) c.toList = s_ev5 c t := by
  simp only [basisRows, Septic.C8.toList, List.getD_cons_zero, List.getD_cons_succ, dot, s_ev, s_ev1, s_ev2, s_ev3, s_ev4, s_ev5, lit_eq]
  push_cast
  refine ⟨by ring, by ring, by ring, by ring, by ring, by ring⟩

end basis

section quad
variable {K : Type} [Field K]

/-- `weight_trap` of `calculateIntegralCost` -/
def trapW (K' k : Nat) : K := if k = 0 ∨ k = K' then 1 / 2 else 1

/-- **cost of one node**: value of the running cost at the sample × trapezoid weight × `T/K` -/
theorem quadStep_cost (o : Order) (d K' : Nat) (run : RunFn K) (i : Nat) (T s0 : K) (blk : List (Vec K)) (acc : SegAcc K) (k : Nat) :
    let smp := (quadStep o d K' run i T s0 blk acc k).2
    (quadStep o d K' run i T s0 blk acc k).1.cost
      = acc.cost + (run smp.t smp.tGlobal i smp.p smp.v smp.a smp.j smp.s).val * (trapW K' k * (T * (1 / (K' : K)))) := by
  simp only [quadStep, trapW, litq, lit_eq, Bool.or_eq_true, decide_eq_true_eq]
  push_cast
  split_ifs <;> rfl

-- `LinearOrder` and `FloorRing` are what `evaluate` needs of the scalars (`ordNum`)
variable [LinearOrder K] [FloorRing K]

/-- **sample fidelity**: what node `k` of segment `i` hands to the running cost -/
theorem quadStep_sample (o : Order) (d K' : Nat) (run : RunFn K) (i : Nat) (T s0 : K) (blk : List (Vec K)) (acc : SegAcc K) (k : Nat) :
    let smp := (quadStep o d K' run i T s0 blk acc k).2
    smp.seg = i ∧ smp.t = (k : K) * (1 / (K' : K)) * T ∧ smp.tGlobal = s0 + (k : K) * (1 / (K' : K)) * T ∧
    smp.p = rowTimesBlock d ((basisRows o smp.t).getD 0 []) blk ∧
    smp.v = rowTimesBlock d ((basisRows o smp.t).getD 1 []) blk ∧
    smp.a = rowTimesBlock d ((basisRows o smp.t).getD 2 []) blk ∧
    smp.j = rowTimesBlock d ((basisRows o smp.t).getD 3 []) blk ∧
    smp.s = rowTimesBlock d ((basisRows o smp.t).getD 4 []) blk := by
  refine ⟨rfl, ?_, ?_, rfl, rfl, rfl, rfl, rfl⟩ <;>
    simp only [quadStep, lit_eq, Nat.cast_one]

/-- cost contribution of node `k` (independent of the accumulator) -/
noncomputable def nodeCost (o : Order) (d K' : Nat) (run : RunFn K) (i : Nat) (T s0 : K) (blk : List (Vec K)) (k : Nat) : K :=
  let smp := (quadStep o d K' run i T s0 blk ⟨0, 0, 0, []⟩ k).2
  (run smp.t smp.tGlobal i smp.p smp.v smp.a smp.j smp.s).val * (trapW K' k * (T * (1 / (K' : K))))

theorem quadStep_sample_indep (o : Order) (d K' : Nat) (run : RunFn K) (i : Nat) (T s0 : K) (blk : List (Vec K)) (a b : SegAcc K) (k : Nat) :
    (quadStep o d K' run i T s0 blk a k).2 = (quadStep o d K' run i T s0 blk b k).2 :=
  AnyNum.quadStep_sample_indep o d K' run i T s0 blk a b k

/-- the segment integral: Σ_{k=0..K} w_k · (T/K) · run(sample_k) -/
theorem quadSegment_cost (o : Order) (d K' : Nat) (run : RunFn K) (i : Nat) (T s0 : K) (blk : List (Vec K)) :
    (quadSegment o d K' run i T s0 blk).1.cost = ((List.range (K' + 1)).map (nodeCost o d K' run i T s0 blk)).sum := by
  unfold quadSegment
  have gen : ∀ (l : List Nat) (st : SegAcc K × List (Sample K)),
      (l.foldl (fun (st : SegAcc K × List (Sample K)) k =>
        let (acc', smp) := quadStep o d K' run i T s0 blk st.1 k
        (acc', st.2 ++ [smp])) st).1.cost = st.1.cost + (l.map (nodeCost o d K' run i T s0 blk)).sum := by
    intro l
    induction l with
    | nil => intro st; simp
    | cons k l ih =>
      intro st
      rw [List.foldl_cons, ih]
      have := quadStep_cost o d K' run i T s0 blk st.1 k
      simp only at this
      simp only [this, List.map_cons, List.sum_cons, nodeCost,
        quadStep_sample_indep o d K' run i T s0 blk st.1 ⟨0, 0, 0, []⟩ k]
      ring
  rw [gen]
  simp [lit_eq]

theorem quadSegment_samples (o : Order) (d K' : Nat) (run : RunFn K) (i : Nat) (T s0 : K) (blk : List (Vec K)) :
    (quadSegment o d K' run i T s0 blk).2 =
      (List.range (K' + 1)).map (fun k => (quadStep o d K' run i T s0 blk ⟨0, 0, 0, []⟩ k).2) :=
  AnyNum.quadSegment_samples o d K' run i T s0 blk

theorem segStarts_spec (t0 : K) (Ts : List K) (i : Nat) (hi : i < Ts.length) :
    (segStarts t0 Ts).getD i 0 = t0 + (Ts.take i).sum := by
  induction Ts generalizing t0 i with
  | nil => simp at hi
  | cons T Ts ih =>
    cases i with
    | zero => simp [segStarts]
    | succ j =>
      simp only [segStarts, List.getD_cons_succ, List.take_succ_cons, List.sum_cons]
      rw [ih (t0 + T) j (by simpa using hi)]; ring

/-- **C08: the returned cost** = (time cost + Σ segment integrals) + waypoint cost + (ρ·energy when ρ > 0), all evaluated at
the decoded durations / waypoints / trajectory; the two-cost overload is the three-cost one without the waypoint term -/
theorem evaluate_cost (c : Config K) (x : List K) (costs : Costs K) :
    let r := evaluate c x costs
    let dc := decode c x
    r.cost =
      ((r.segCosts.foldl (· + ·) (0 + (costs.time dc.times).1))
        + (match costs.waypoints with | none => 0 | some wf => (wf dc.waypoints).1))
        + (if 0 < c.rho then c.rho * r.energy else 0) ∧
    r.timeCost = (costs.time dc.times).1 ∧
    r.energy = (buildND c.order c.dim dc.times dc.waypoints c.startTime dc.bc).energy ∧
    r.decoded = dc := by
  refine ⟨?_, rfl, rfl, rfl⟩
  simp only [evaluate, evalCore, NumOrd.lt, decide_eq_true_eq, lit_eq, Nat.cast_zero]
  cases hw : costs.waypoints with
  | none => by_cases hr : 0 < c.rho <;> simp [hr]
  | some wf => by_cases hr : 0 < c.rho <;> simp [hr]

theorem evaluate_segCost (c : Config K) (x : List K) (costs : Costs K) (i : Nat) (hi : i < c.n) :
    let r := evaluate c x costs
    let dc := decode c x
    r.segCosts.getD i 0 =
      ((List.range (c.steps + 1)).map (nodeCost c.order c.dim c.steps costs.run i (dc.times.getD i 0)
        ((segStarts c.startTime dc.times).getD i 0) (r.spline.coeffs.getD i []))).sum := by
  simp only [evaluate, evalCore, List.map_map, lit_eq, Nat.cast_zero]
  rw [List.getD_eq_getElem?_getD, List.getElem?_map, List.getElem?_range hi]
  simp only [Option.map_some, Option.getD_some, Function.comp]
  exact quadSegment_cost _ _ _ _ _ _ _ _

end quad
