import STModel
import Mathlib.Tactic.Linarith
/-!
# Lengths of the lists the model builds

Law-free (`Num α` only); unconditional where the recursion allows it (`min` of the argument lengths) and then tagged
`simp`, so that length side conditions are closed by `simp; omega` instead of an induction of their own.  With them, two
law-free facts about `Cubic.mkSegs` (`mkSegs_ne_nil`, `mkSegs_map_h`).
-/
open ST

namespace ST
variable {α : Type} [Num α]

@[simp] theorem zipAdd_length (a b : List α) : (zipAdd a b).length = min a.length b.length := by
  induction a generalizing b with
  | nil => cases b <;> exact (Nat.zero_min _).symm
  | cons x xs ih =>
    cases b with
    | nil => rfl
    | cons y ys => simp only [zipAdd, List.length_cons, ih, Nat.succ_min_succ]

@[simp] theorem scale_length (c : α) (xs : List α) : (scale c xs).length = xs.length := by simp [scale]

@[simp] theorem oaddAux_length (c : α) (l : List (α × α)) : (oaddAux c l).length = l.length + 1 := by
  induction l generalizing c with
  | nil => rfl
  | cons p rest ih => obtain ⟨a, b⟩ := p; simp [oaddAux, ih]
@[simp] theorem oadd_length (l : List (α × α)) : (oadd l).length = l.length + 1 := oaddAux_length _ l

@[simp] theorem oadd3Aux_length (c0 c1 : α) (l : List (α × α × α)) : (oadd3Aux c0 c1 l).length = l.length + 2 := by
  induction l generalizing c0 c1 with
  | nil => rfl
  | cons p rest ih => obtain ⟨a, b, c⟩ := p; simp [oadd3Aux, ih]
@[simp] theorem oadd3_length (l : List (α × α × α)) : (oadd3 l).length = l.length + 2 := oadd3Aux_length _ _ l

@[simp] theorem cumulative_length (t0 : α) (hs : List α) : (cumulative t0 hs).length = hs.length + 1 := by
  induction hs generalizing t0 with
  | nil => rfl
  | cons h hs ih => simp [cumulative, ih]

@[simp] theorem diffs_length (ts : List α) : (diffs ts).length = ts.length - 1 := by
  induction ts with
  | nil => rfl
  | cons t ts ih =>
    cases ts with
    | nil => rfl
    | cons t' ts => simp only [diffs, List.length_cons, ih, Nat.add_sub_cancel]

@[simp] theorem fwd_length (st : Option (α × α)) (rows : List (Row α)) : (fwd st rows).length = rows.length := by
  induction rows generalizing st with
  | nil => cases st <;> rfl
  | cons r rs ih => rcases st with _ | ⟨c, d⟩ <;> simp [fwd, ih]

@[simp] theorem back_length (l : List (α × α)) : (back l).length = l.length := by
  induction l with
  | nil => rfl
  | cons p rest ih =>
    obtain ⟨c, d⟩ := p
    simp only [back]; split <;> simp_all

@[simp] theorem thomas_length (rows : List (Row α)) : (thomas rows).length = rows.length := by simp [thomas]

@[simp] theorem withRhs_length {β : Type} (rows : List (Row β)) (b : List β) :
    (withRhs rows b).length = min rows.length b.length := by
  induction rows generalizing b with
  | nil => cases b <;> exact (Nat.zero_min _).symm
  | cons r rs ih =>
    cases b with
    | nil => rfl
    | cons x xs => simp only [withRhs, List.length_cons, ih, Nat.succ_min_succ]

section blk
variable {R V : Type} [BlkOps R V]

@[simp] theorem bfwd_length (st : Option (BFact R V)) (rows : List (BRow R V)) : (bfwd st rows).length = rows.length := by
  induction rows generalizing st with
  | nil => cases st <;> rfl
  | cons r rs ih => cases st <;> simp [bfwd, ih]

@[simp] theorem bback_length (fs : List (BFact R V)) : (bback fs).length = fs.length := by
  induction fs with
  | nil => rfl
  | cons f rest ih => simp only [bback]; split <;> simp_all

@[simp] theorem bthomas_length (rows : List (BRow R V)) : (bthomas rows).length = rows.length := by simp [bthomas]

@[simp] theorem bfwdT_length (st : Option (BFact R V × V)) (fs : List (BFact R V)) (g : List V) :
    (bfwdT st fs g).length = min fs.length g.length := by
  induction fs generalizing st g with
  | nil => cases st <;> cases g <;> exact (Nat.zero_min _).symm
  | cons f fs ih =>
    cases g with
    | nil => cases st <;> exact (Nat.min_zero _).symm
    | cons g0 gs => rcases st with _ | ⟨p, lp⟩ <;> simp only [bfwdT, List.length_cons, ih, Nat.succ_min_succ]

theorem bbackT_length (fs : List (BFact R V)) (y : List V) (h : y.length = fs.length) :
    (bbackT fs y).length = fs.length := by
  induction fs generalizing y with
  | nil => match y, h with
    | [], _ => rfl
  | cons f fs ih =>
    match y, h with
    | y0 :: ys, h =>
      cases fs with
      | nil => match ys, h with
        | [], _ => rfl
      | cons f2 fs2 =>
        have := ih ys (Nat.succ.inj h)
        simp only [bbackT]
        split
        · next e => rw [e] at this; cases this
        · exact congrArg (· + 1) this

theorem bsolveT_length (fs : List (BFact R V)) (g : List V) (h : g.length = fs.length) :
    (bsolveT fs g).length = fs.length := by
  rw [bsolveT, bbackT_length _ _ (by simp [h])]

end blk

namespace Cubic

@[simp] theorem mkSegs_length (hs Ps : List α) : (mkSegs hs Ps).length = min hs.length (Ps.length - 1) := by
  induction hs generalizing Ps with
  | nil => cases Ps <;> exact (Nat.zero_min _).symm
  | cons h hs ih =>
    match Ps with
    | [] | [_] => exact (Nat.min_zero _).symm
    | p0 :: p1 :: Ps => simp only [mkSegs, List.length_cons, ih, Nat.add_sub_cancel, Nat.succ_min_succ]

@[simp] theorem interiorRows_length (vn : α) (s : Seg α) (rest : List (Seg α)) :
    (interiorRows vn s rest).length = rest.length + 1 := by
  induction rest generalizing s with
  | nil => rfl
  | cons a r ih => simp [interiorRows, ih]

@[simp] theorem rows_length (v0 vn : α) (segs : List (Seg α)) :
    (rows v0 vn segs).length = if segs = [] then 0 else segs.length + 1 := by
  cases segs <;> simp [rows]

@[simp] theorem closure_length (segs : List (Seg α)) (ms : List α) :
    (closure segs ms).length = min segs.length (ms.length - 1) := by
  induction segs generalizing ms with
  | nil => exact (Nat.zero_min _).symm
  | cons s rest ih =>
    match ms with
    | [] | [_] => exact (Nat.min_zero _).symm
    | m0 :: m1 :: ms => simp only [closure, List.length_cons, ih, Nat.add_sub_cancel, Nat.succ_min_succ]

@[simp] theorem zipLam_length (segs : List (Seg α)) (gs : List (C4 α)) :
    (zipLam segs gs).length = min segs.length gs.length := by
  induction segs generalizing gs with
  | nil => cases gs <;> exact (Nat.zero_min _).symm
  | cons s ss ih =>
    cases gs with
    | nil => rfl
    | cons g gs => simp only [zipLam, List.length_cons, ih, Nat.succ_min_succ]

@[simp] theorem segContribs_length (segs : List (Seg α)) (gs : List (C4 α)) (ms ls : List α) :
    (segContribs segs gs ms ls).length = min (min segs.length gs.length) (min (ms.length - 1) (ls.length - 1)) := by
  induction segs generalizing gs ms ls with
  | nil => show 0 = _; simp only [List.length_nil, Nat.zero_min]
  | cons s ss ih =>
    match gs, ms, ls with
    | g :: gs, m0 :: m1 :: ms, l0 :: l1 :: ls =>
      simp only [segContribs, List.length_cons, ih, Nat.add_sub_cancel, Nat.add_min_add_right]
    | [], _, _ | _ :: _, [], _ | _ :: _, [_], _ | _ :: _, _ :: _ :: _, [] | _ :: _, _ :: _ :: _, [_] =>
      -- `simp [segContribs]` closes each of these too, at twenty times the cost
      show 0 = _
      simp only [List.length_nil, List.length_cons, Nat.add_sub_cancel, Nat.zero_sub, Nat.min_zero, Nat.zero_min]

theorem mkSegs_ne_nil (hs Ps : List α) (hne : hs ≠ []) (hP : Ps.length = hs.length + 1) : mkSegs hs Ps ≠ [] := by
  match hs, Ps, hne, hP with
  | _ :: _, _ :: _ :: _, _, _ => exact List.cons_ne_nil _ _

theorem mkSegs_map_h (hs Ps : List α) (hP : Ps.length = hs.length + 1) : (mkSegs hs Ps).map (·.h) = hs := by
  induction hs generalizing Ps with
  | nil => cases Ps <;> rfl
  | cons h hs ih =>
    match Ps, hP with
    | p0 :: p1 :: Ps, hP => simp only [mkSegs, List.map_cons, ih (p1 :: Ps) (Nat.succ.inj hP)]

@[simp] theorem knotM_length (v0 vn : α) (segs : List (Seg α)) :
    (knotM v0 vn segs).length = if segs = [] then 0 else segs.length + 1 := by simp [knotM]

@[simp] theorem build_length (hs Ps : List α) (v0 vn : α) :
    (build hs Ps v0 vn).length = min hs.length (Ps.length - 1) := by
  rw [← mkSegs_length hs Ps, build, closure_length, knotM_length]
  cases mkSegs hs Ps <;> simp

end Cubic
end ST
