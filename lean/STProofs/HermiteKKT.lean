import STProofs.Hermite
/-!
# Quintic / septic spline: the block rows say "derivatives s … 2s−2 are continuous at the interior knot"

The derivatives `s … 2s−2` of a closure piece at its two ends, written in the knot data (`closeSeg_jets`; `closeSeg_end`,
`closeSeg_start` — the one computation per order), are the two halves of a block row; hence `row_identity`: the residual
of the block row of a knot is the jump of the high derivatives across it.  Since the rows the code eliminates are the
knot rows with the boundary states moved to the right-hand side (`HS.rows_eq`), the Hermite closure of *any* knot data
has continuous high derivatives iff the data solve the block system (`jumpFree_iff`).  Read from right to left this is
the optimality (KKT) system of the built spline under the pivot hypothesis (`KKT_partial`), from left to right its
uniqueness (`unique_of_piv`).
With C⁰ … C^{s−1} and the boundary states from `STProofs.Hermite` these are all optimality conditions.
-/
open ST

namespace QuinticK
open ST.Quintic
variable {K : Type} [Field K] [CharZero K]

theorem closeSeg_jets_unit (p0 dp : K) (k0 k1 : V2 K) :
    let c := closeSeg ⟨mkTP 1, p0, dp⟩ k0 k1
    (q_ev4 c 1 = -(168 * k0.x) - 24 * k0.y - 192 * k1.x + 36 * k1.y + 360 * dp ∧
     q_ev3 c 1 = -(24 * k0.x) - 3 * k0.y - 36 * k1.x + 9 * k1.y + 60 * dp) ∧
    (q_ev4 c 0 = -(-(192 * k0.x) - 36 * k0.y - 168 * k1.x + 24 * k1.y + 360 * dp) ∧
     q_ev3 c 0 = -(36 * k0.x + 9 * k0.y + 24 * k1.x - 3 * k1.y - 60 * dp)) := by
  simp only [closeSeg, mkTP_one, q_ev3, q_ev4, lit_eq, one_pow, mul_one, mul_zero, add_zero]
  push_cast
  refine ⟨⟨?_, ?_⟩, ?_, ?_⟩ <;> ring

/-- snap and jerk of a closure piece at its right end and at its left end, in the knot data: the two halves of a
block row.  The model's quintic closure multiplies by the duration itself, so the left end needs `h ≠ 0` too; the septic
one uses inverse powers only (`SepticK.closeSeg_start`) -/
theorem closeSeg_jets (h p0 dp : K) (k0 k1 : V2 K) (hh : h ≠ 0) :
    let tp := mkTP h
    let c := closeSeg ⟨tp, p0, dp⟩ k0 k1
    (q_ev4 c h = -(168 * tp.i3 * k0.x) - 24 * tp.i2 * k0.y - 192 * tp.i3 * k1.x + 36 * tp.i2 * k1.y + 360 * (dp * tp.i4) ∧
     q_ev3 c h = -(24 * tp.i2 * k0.x) - 3 * tp.i1 * k0.y - 36 * tp.i2 * k1.x + 9 * tp.i1 * k1.y + 60 * (dp * tp.i3)) ∧
    (q_ev4 c 0 = -(-(192 * tp.i3 * k0.x) - 36 * tp.i2 * k0.y - 168 * tp.i3 * k1.x + 24 * tp.i2 * k1.y + 360 * (dp * tp.i4)) ∧
     q_ev3 c 0 = -(36 * tp.i2 * k0.x + 9 * tp.i1 * k0.y + 24 * tp.i2 * k1.x - 3 * tp.i1 * k1.y - 60 * (dp * tp.i3))) := by
  obtain ⟨K0, K1, rfl, rfl, e⟩ := QuinticSym.closeSeg_unit h p0 dp k0 k1 hh
  simp only [e, QuinticSym.q_ev_tsC, div_self hh, zero_div, closeSeg_jets_unit p0 dp K0 K1]
  simp only [mkTP_inv]
  refine ⟨⟨?_, ?_⟩, ?_, ?_⟩ <;> ring

/-- **row identity**: residual of the block row of a knot = jump of (snap, jerk) across it, with factor exactly 1 -/
theorem quintic_row_identity (hL hR p0 p1 p2 : K) (kp kc kn : V2 K) (h1 : hL ≠ 0) (h2 : hR ≠ 0) :
    let sL : Seg K := ⟨mkTP hL, p0, p1 - p0⟩
    let sR : Seg K := ⟨mkTP hR, p1, p2 - p1⟩
    let cL := closeSeg sL kp kc
    let cR := closeSeg sR kc kn
    let res := (blockL sL.tp • kp + blockD sL.tp sR.tp • kc + blockU sR.tp • kn) - blockRhs sL sR
    res.x = q_ev4 cL hL - q_ev4 cR 0 ∧ res.y = q_ev3 cL hL - q_ev3 cR 0 := by
  intro sL sR cL cR res
  obtain ⟨⟨l4, l3⟩, -⟩ := closeSeg_jets hL p0 (p1 - p0) kp kc h1
  obtain ⟨-, r4, r3⟩ := closeSeg_jets hR p1 (p2 - p1) kc kn h2
  simp only [res, cL, cR, sL, sR, l4, l3, r4, r3, blockL, blockD, blockU, blockRhs, lit_eq,
    V2.smul_def, V2.add_def, V2.sub_def]
  push_cast
  constructor <;> ring

/-- consecutive pieces agree in jerk and snap at their common knot -/
def JumpFree34 : List K → List (C6 K) → Prop
  | h :: hs, c :: c' :: cs => q_ev3 c h = q_ev3 c' 0 ∧ q_ev4 c h = q_ev4 c' 0 ∧ JumpFree34 hs (c' :: cs)
  | _, _ => True

end QuinticK

namespace SepticK
open ST.Septic
variable {K : Type} [Field K] [CharZero K]

theorem closeSeg_end_unit (p0 dp : K) (k0 k1 : V3 K) :
    let c := closeSeg ⟨mkTP 1, p0, dp⟩ k0 k1
    s_ev4 c 1 = 360 * k0.x + 60 * k0.y + 4 * k0.z + 480 * k1.x - 120 * k1.y + 16 * k1.z - 840 * dp ∧
    s_ev5 c 1 = 4680 * k0.x + 840 * k0.y + 60 * k0.z + 5400 * k1.x - 1200 * k1.y + 120 * k1.z - 10080 * dp ∧
    s_ev6 c 1 = 24480 * k0.x + 4680 * k0.y + 360 * k0.z + 25920 * k1.x - 5400 * k1.y + 480 * k1.z - 50400 * dp := by
  simp only [closeSeg, mkTP_one, s_ev4, s_ev5, s_ev6, lit_eq, one_pow, mul_one]
  push_cast
  refine ⟨?_, ?_, ?_⟩ <;> ring

/-- derivatives 4, 5, 6 of a closure piece at its right end, in the knot data: the left half of a block row -/
theorem closeSeg_end (h p0 dp : K) (k0 k1 : V3 K) (hh : h ≠ 0) :
    let tp := mkTP h
    let c := closeSeg ⟨tp, p0, dp⟩ k0 k1
    s_ev4 c h = 360 * tp.i3 * k0.x + 60 * tp.i2 * k0.y + 4 * tp.i1 * k0.z
                + 480 * tp.i3 * k1.x - 120 * tp.i2 * k1.y + 16 * tp.i1 * k1.z - 840 * (dp * tp.i4) ∧
    s_ev5 c h = 4680 * tp.i4 * k0.x + 840 * tp.i3 * k0.y + 60 * tp.i2 * k0.z
                + 5400 * tp.i4 * k1.x - 1200 * tp.i3 * k1.y + 120 * tp.i2 * k1.z - 10080 * (dp * tp.i5) ∧
    s_ev6 c h = 24480 * tp.i5 * k0.x + 4680 * tp.i4 * k0.y + 360 * tp.i3 * k0.z
                + 25920 * tp.i5 * k1.x - 5400 * tp.i4 * k1.y + 480 * tp.i3 * k1.z - 50400 * (dp * tp.i6) := by
  obtain ⟨K0, K1, rfl, rfl, e⟩ := SepticSym.closeSeg_unit h p0 dp k0 k1 hh
  simp only [e, SepticSym.s_ev_tsC, div_self hh, closeSeg_end_unit p0 dp K0 K1]
  simp only [mkTP_inv]
  refine ⟨?_, ?_, ?_⟩ <;> ring

/-- the same at the left end: the right half of the block row of the knot before it (no inverse to cancel) -/
theorem closeSeg_start (tp : TP K) (p0 dp : K) (k0 k1 : V3 K) :
    let c := closeSeg ⟨tp, p0, dp⟩ k0 k1
    s_ev4 c 0 = -(480 * tp.i3 * k0.x + 120 * tp.i2 * k0.y + 16 * tp.i1 * k0.z
                + 360 * tp.i3 * k1.x - 60 * tp.i2 * k1.y + 4 * tp.i1 * k1.z - 840 * (dp * tp.i4)) ∧
    s_ev5 c 0 = -(-(5400 * tp.i4 * k0.x) - 1200 * tp.i3 * k0.y - 120 * tp.i2 * k0.z
                - 4680 * tp.i4 * k1.x + 840 * tp.i3 * k1.y - 60 * tp.i2 * k1.z + 10080 * (dp * tp.i5)) ∧
    s_ev6 c 0 = -(25920 * tp.i5 * k0.x + 5400 * tp.i4 * k0.y + 480 * tp.i3 * k0.z
                + 24480 * tp.i5 * k1.x - 4680 * tp.i4 * k1.y + 360 * tp.i3 * k1.z - 50400 * (dp * tp.i6)) := by
  intro c
  simp only [c, closeSeg, s_ev4, s_ev5, s_ev6, lit_eq]
  push_cast
  refine ⟨?_, ?_, ?_⟩ <;> ring

/-- **row identity**: residual of the block row of a knot = jump of derivatives (4, 5, 6) across it, with factor exactly 1 -/
theorem septic_row_identity (hL hR p0 p1 p2 : K) (kp kc kn : V3 K) (h1 : hL ≠ 0) (h2 : hR ≠ 0) :
    let sL : Seg K := ⟨mkTP hL, p0, p1 - p0⟩
    let sR : Seg K := ⟨mkTP hR, p1, p2 - p1⟩
    let cL := closeSeg sL kp kc
    let cR := closeSeg sR kc kn
    let res := (blockL sL.tp • kp + blockD sL.tp sR.tp • kc + blockU sR.tp • kn) - blockRhs sL sR
    res.x = s_ev4 cL hL - s_ev4 cR 0 ∧ res.y = s_ev5 cL hL - s_ev5 cR 0 ∧ res.z = s_ev6 cL hL - s_ev6 cR 0 := by
  intro sL sR cL cR res
  obtain ⟨l4, l5, l6⟩ := closeSeg_end hL p0 (p1 - p0) kp kc h1
  obtain ⟨r4, r5, r6⟩ := closeSeg_start (mkTP hR) p1 (p2 - p1) kc kn
  simp only [res, cL, cR, sL, sR, l4, l5, l6, r4, r5, r6, blockL, blockD, blockU, blockRhs, lit_eq,
    V3.smul_def, V3.add_def, V3.sub_def]
  push_cast
  refine ⟨?_, ?_, ?_⟩ <;> ring

/-- consecutive pieces agree in derivatives 4, 5, 6 at their common knot -/
def JumpFree456 : List K → List (C8 K) → Prop
  | h :: hs, c :: c' :: cs =>
      s_ev4 c h = s_ev4 c' 0 ∧ s_ev5 c h = s_ev5 c' 0 ∧ s_ev6 c h = s_ev6 c' 0 ∧ JumpFree456 hs (c' :: cs)
  | _, _ => True

end SepticK

namespace HS
variable {o : Deg} {K : Type} [Field K]

/-- derivatives `s … 2s−2` of a piece at local time `t`, in the order of the block rows -/
def hi : C o K → K → V o K :=
  match o with
  | .quintic => fun c t => (⟨q_ev4 c t, q_ev3 c t⟩ : V2 K)
  | .septic => fun c t => (⟨s_ev4 c t, s_ev5 c t, s_ev6 c t⟩ : V3 K)

/-- consecutive pieces agree in the derivatives `s … 2s−2` at their common knot -/
def JumpFree : List K → List (C o K) → Prop :=
  match o with | .quintic => QuinticK.JumpFree34 | .septic => SepticK.JumpFree456

theorem jumpFree_cons (h : K) (hs : List K) (c c' : C o K) (cs : List (C o K)) :
    JumpFree (h :: hs) (c :: c' :: cs) ↔ hi c h = hi c' 0 ∧ JumpFree hs (c' :: cs) := by
  cases o
  · show _ ∧ _ ∧ _ ↔ (⟨_, _⟩ : V2 K) = ⟨_, _⟩ ∧ _
    -- `JumpFree34` lists jerk before snap, the block vector snap before jerk
    rw [V2.mk.injEq, and_assoc, and_left_comm]
    exact Iff.rfl
  · show _ ∧ _ ∧ _ ∧ _ ↔ (⟨_, _, _⟩ : V3 K) = ⟨_, _, _⟩ ∧ _
    rw [V3.mk.injEq, and_assoc, and_assoc]
    exact Iff.rfl
theorem jumpFree_short (hs : List K) (cs : List (C o K)) (h : cs.length ≤ 1) : JumpFree hs cs := by
  match cs, h with
  | [], _ => cases o <;> cases hs <;> trivial
  | [_], _ => cases o <;> cases hs <;> trivial

/-- the same as a chain condition on the list of (duration, piece) pairs, so that the library's lemmas on chains
(maps, reversal) apply -/
theorem jumpFree_iff_chain (hs : List K) (cs : List (C o K)) (hl : cs.length = hs.length) :
    JumpFree hs cs ↔ (hs.zip cs).IsChain fun a b => hi a.2 a.1 = hi b.2 0 := by
  induction hs generalizing cs with
  | nil => simp [jumpFree_short _ cs (by simp [hl])]
  | cons h hs ih =>
    match hs, cs, hl with
    | [], [c], _ => simp [jumpFree_short]
    | h' :: hs, c :: c' :: cs, hl => simp [jumpFree_cons, ih (c' :: cs) (by simpa using hl)]

variable [CharZero K]

theorem row_identity (hL hR p0 p1 p2 : K) (kp kc kn : V o K) (h1 : hL ≠ 0) (h2 : hR ≠ 0) :
    blockL (mkTP o hL) • kp + blockD (mkTP o hL) (mkTP o hR) • kc + blockU (mkTP o hR) • kn
        - blockRhs (Seg.mk (mkTP o hL) p0 (p1 - p0)) (Seg.mk (mkTP o hR) p1 (p2 - p1))
      = hi (closeSeg (Seg.mk (mkTP o hL) p0 (p1 - p0)) kp kc) hL - hi (closeSeg (Seg.mk (mkTP o hR) p1 (p2 - p1)) kc kn) 0 := by
  cases o
  · obtain ⟨a, b⟩ := QuinticK.quintic_row_identity hL hR p0 p1 p2 kp kc kn h1 h2
    exact V2.ext a b
  · obtain ⟨a, b, c⟩ := SepticK.septic_row_identity hL hR p0 p1 p2 kp kc kn h1 h2
    exact V3.ext a b c

/-- **the optimality conditions are the block system**: the Hermite closure of knot data `kL :: ks ++ [kR]` has
continuous derivatives `s … 2s−2` at every interior knot iff every knot row holds -/
theorem jumpFree_iff (hs Ps : List K) (kL kR : V o K) (ks : List (V o K)) (hne : ∀ h ∈ hs, h ≠ 0)
    (hP : Ps.length = hs.length + 1) (hk : ks.length + 1 = hs.length) :
    JumpFree hs (closure (mkSegs o hs Ps) (kL :: ks ++ [kR])) ↔ BSolvesE kL (knotRows (mkSegs o hs Ps)) ks kR := by
  induction hs generalizing Ps kL ks with
  | nil => simp at hk
  | cons hL hs ih =>
    match hs, Ps, ks, hP, hk with
    | [], [p0, p1], [], _, _ => simp [mkSegs_cons, mkSegs_nil, knotRows, BSolvesE, jumpFree_short]
    | hR :: hs', p0 :: p1 :: p2 :: Ps', kc :: ks', hP, hk =>
      have ih' := ih (p1 :: p2 :: Ps') kc ks' (fun x hx => hne x (by simp [hx])) (by simpa using hP) (by simpa using hk)
      have rid := row_identity hL hR p0 p1 p2 kL kc (ks'.headD kR) (hne hL (by simp)) (hne hR (by simp))
      -- `BSolvesE` reads the right neighbour of the unknown `kc` as `ks'.headD kR`: the knot after `kc`, in that form
      obtain ⟨rest, hrest⟩ : ∃ rest, kc :: ks' ++ [kR] = kc :: ks'.headD kR :: rest := by cases ks' <;> simp
      simp only [mkSegs_cons, knotRows, BSolvesE, Seg.tp_mk] at ih' ⊢
      rw [← ih', List.cons_append, hrest, closure_cons, closure_cons, jumpFree_cons, ← closure_cons, ← hrest,
        ← sub_eq_zero (a := hi _ _), ← rid, sub_eq_zero]

/-- **optimality conditions of the built spline, every N, under the pivot hypothesis** -/
theorem KKT_partial (hs Ps : List K) (bL bR : V o K) (hne : ∀ h ∈ hs, h ≠ 0) (hP : Ps.length = hs.length + 1)
    (hpiv : BPivOK inv none (rows bL bR (mkSegs o hs Ps))) : JumpFree hs (build o hs Ps bL bR) := by
  rcases hs with _ | ⟨h, hs'⟩
  · exact jumpFree_short _ _ (by simp [build_eq, mkSegs_nil, closure_nil])
  · rw [build_eq, jumpFree_iff _ _ _ _ _ hne hP (by simp [hP])]
    exact bthomas_solves _ _ _ hpiv

/-- **uniqueness of the optimality system, every N, under the pivot hypothesis**: pieces `cs` that are the Hermite closure
of some knot data between the boundary states and have continuous high derivatives are the built spline -/
theorem unique_of_piv (hs Ps : List K) (bL bR : V o K) (inner : List (V o K)) (cs : List (C o K)) (hne : ∀ h ∈ hs, h ≠ 0)
    (hP : Ps.length = hs.length + 1) (hin : inner.length + 1 = hs.length)
    (hpiv : BPivOK2 inv none (rows bL bR (mkSegs o hs Ps)))
    (hc : closure (mkSegs o hs Ps) (bL :: inner ++ [bR]) = cs) (hj : JumpFree hs cs) : build o hs Ps bL bR = cs := by
  subst hc
  rw [jumpFree_iff _ _ _ _ _ hne hP hin] at hj
  rw [build_eq, eq_bthomas _ _ _ hpiv inner hj]

end HS

/-- pivot hypothesis of the quintic block elimination for given durations: the code's closed-form inverse of every pivot
block is a right inverse -/
def QuinticK.QuinticPivOK {K : Type} [Field K] (hs Ps : List K) (bL bR : V2 K) : Prop :=
  BPivOK M2.inv none (Quintic.rows bL bR (Quintic.mkSegs hs Ps))

/-- **C02 (quintic), every N, under the pivot hypothesis**: jerk and snap are continuous at every interior knot -/
theorem QuinticK.quintic_KKT_partial {K : Type} [Field K] [CharZero K] (hs Ps : List K) (bL bR : V2 K)
    (hne : ∀ h ∈ hs, h ≠ 0) (hP : Ps.length = hs.length + 1) (hpiv : QuinticPivOK hs Ps bL bR) :
    JumpFree34 hs (Quintic.build hs Ps bL bR) :=
  HS.KKT_partial (o := .quintic) hs Ps bL bR hne hP hpiv

/-- pivot hypothesis of the septic block elimination -/
def SepticK.SepticPivOK {K : Type} [Field K] (hs Ps : List K) (bL bR : V3 K) : Prop :=
  BPivOK M3.inv none (Septic.rows bL bR (Septic.mkSegs hs Ps))

/-- **C02 (septic), every N, under the pivot hypothesis**: derivatives 4–6 are continuous at every interior knot -/
theorem SepticK.septic_KKT_partial {K : Type} [Field K] [CharZero K] (hs Ps : List K) (bL bR : V3 K)
    (hne : ∀ h ∈ hs, h ≠ 0) (hP : Ps.length = hs.length + 1) (hpiv : SepticPivOK hs Ps bL bR) :
    JumpFree456 hs (Septic.build hs Ps bL bR) :=
  HS.KKT_partial (o := .septic) hs Ps bL bR hne hP hpiv
