import STProofs.Blocks
/-!
# The quintic and the septic spline under one index

`QuinticSplineND` and `SepticSplineND` are the same program up to the block size (2 / 3) and the tables of
constants, and so are `ST.Quintic` and `ST.Septic`.  `HS.Deg` indexes the two; the types and operations of the
two model namespaces that the proofs speak of are available here as one family `HS.f o` that reduces to `Quintic.f` /
`Septic.f` at the two constructors, together with its defining equations (`cases o <;> rfl`).  A statement proved for a
variable `o` from these equations alone holds for both splines, and instantiating it at `.quintic` / `.septic` gives
*definitionally* the statement about the model's own functions.
-/
open ST

/-! the two shapes of the boundary gradients `propagate` returns (one segment / at least one interior knot): `propagate`
matches on `b.segs`, and with the shape put in, the match reduces and the two sides are the same term -/
namespace ST.Quintic
variable {α : Type} [Num α]
theorem propagate_ends_single (b : Built α) (gs : List (C6 α)) (s0 : Seg α) (h : b.segs = [s0]) :
    (propagate b gs).start = (oaddV2 ((loop1 b.segs gs b.knots).map (·.2.1))).headD V2.zero
    ∧ (propagate b gs).fin = (oaddV2 ((loop1 b.segs gs b.knots).map (·.2.1))).getLastD V2.zero := by
  simp only [propagate, h, and_self]
theorem propagate_ends_multi (b : Built α) (gs : List (C6 α)) (s0 s1 : Seg α) (rest : List (Seg α))
    (h : b.segs = s0 :: s1 :: rest) :
    let gd := oaddV2 ((loop1 b.segs gs b.knots).map (·.2.1))
    let lam := bsolveT b.facts (gd.tail.dropLast)
    (propagate b gs).start = V2.sub (gd.headD V2.zero) (M2.actT (blockL s0.tp) (lam.headD V2.zero))
    ∧ (propagate b gs).fin = V2.sub (gd.getLastD V2.zero) (M2.actT (endU s0 (s1 :: rest)) (lam.getLastD V2.zero)) := by
  simp only [propagate, h, and_self]
end ST.Quintic
namespace ST.Septic
variable {α : Type} [Num α]
theorem propagate_ends_single (b : Built α) (gs : List (C8 α)) (s0 : Seg α) (h : b.segs = [s0]) :
    (propagate b gs).start = (oaddV3 ((loop1 b.segs gs b.knots).map (·.2.1))).headD V3.zero
    ∧ (propagate b gs).fin = (oaddV3 ((loop1 b.segs gs b.knots).map (·.2.1))).getLastD V3.zero := by
  simp only [propagate, h, and_self]
theorem propagate_ends_multi (b : Built α) (gs : List (C8 α)) (s0 s1 : Seg α) (rest : List (Seg α))
    (h : b.segs = s0 :: s1 :: rest) :
    let gd := oaddV3 ((loop1 b.segs gs b.knots).map (·.2.1))
    let lam := bsolveT b.facts (gd.tail.dropLast)
    (propagate b gs).start = V3.sub (gd.headD V3.zero) (M3.actT (blockL s0.tp) (lam.headD V3.zero))
    ∧ (propagate b gs).fin = V3.sub (gd.getLastD V3.zero) (M3.actT (endU s0 (s1 :: rest)) (lam.getLastD V3.zero)) := by
  simp only [propagate, h, and_self]
end ST.Septic

namespace HS

inductive Deg where
  | quintic | septic

variable (o : Deg) (α : Type)

def V : Type := match o with | .quintic => V2 α | .septic => V3 α
def R : Type := match o with | .quintic => M2 α | .septic => M3 α
def C : Type := match o with | .quintic => Quintic.C6 α | .septic => Septic.C8 α
def TP : Type := match o with | .quintic => Quintic.TP α | .septic => Septic.TP α
def Seg : Type := match o with | .quintic => Quintic.Seg α | .septic => Septic.Seg α
def Built : Type := match o with | .quintic => Quintic.Built α | .septic => Septic.Built α
def Grads : Type := match o with | .quintic => Quintic.Grads α | .septic => Septic.Grads α

variable {o α}

def Seg.tp : Seg o α → TP o α := match o with | .quintic => Quintic.Seg.tp | .septic => Septic.Seg.tp
def Seg.mk : TP o α → α → α → Seg o α := match o with | .quintic => Quintic.Seg.mk | .septic => Septic.Seg.mk
def Built.segs : Built o α → List (Seg o α) := match o with | .quintic => Quintic.Built.segs | .septic => Septic.Built.segs
def Built.facts : Built o α → List (BFact (R o α) (V o α)) :=
  match o with | .quintic => Quintic.Built.facts | .septic => Septic.Built.facts
def Built.knots : Built o α → List (V o α) := match o with | .quintic => Quintic.Built.knots | .septic => Septic.Built.knots
def Built.coeffs : Built o α → List (C o α) := match o with | .quintic => Quintic.Built.coeffs | .septic => Septic.Built.coeffs
def Grads.points : Grads o α → List α := match o with | .quintic => Quintic.Grads.points | .septic => Septic.Grads.points
def Grads.times : Grads o α → List α := match o with | .quintic => Quintic.Grads.times | .septic => Septic.Grads.times
def Grads.start : Grads o α → V o α := match o with | .quintic => Quintic.Grads.start | .septic => Septic.Grads.start
def Grads.fin : Grads o α → V o α := match o with | .quintic => Quintic.Grads.fin | .septic => Septic.Grads.fin

@[simp] theorem Seg.tp_mk (t : TP o α) (p d : α) : (Seg.mk t p d).tp = t := by cases o <;> rfl

instance instBlkOps [Num α] : BlkOps (R o α) (V o α) := match o with | .quintic => instBlkOpsM2V2 | .septic => instBlkOpsM3V3

section ops
variable [Num α]
variable (o)
def mkTP : α → TP o α := match o with | .quintic => Quintic.mkTP | .septic => Septic.mkTP
def mkSegs : List α → List α → List (Seg o α) := match o with | .quintic => Quintic.mkSegs | .septic => Septic.mkSegs
def buildFull : List α → List α → V o α → V o α → Built o α :=
  match o with | .quintic => Quintic.buildFull | .septic => Septic.buildFull
def build : List α → List α → V o α → V o α → List (C o α) := match o with | .quintic => Quintic.build | .septic => Septic.build
def vzero : V o α := match o with | .quintic => V2.zero | .septic => V3.zero
variable {o}
def blockD : TP o α → TP o α → R o α := match o with | .quintic => Quintic.blockD | .septic => Septic.blockD
def blockL : TP o α → R o α := match o with | .quintic => Quintic.blockL | .septic => Septic.blockL
def blockU : TP o α → R o α := match o with | .quintic => Quintic.blockU | .septic => Septic.blockU
def blockRhs : Seg o α → Seg o α → V o α := match o with | .quintic => Quintic.blockRhs | .septic => Septic.blockRhs
def rowsAux : V o α → Bool → V o α → Seg o α → List (Seg o α) → List (BRow (R o α) (V o α)) :=
  match o with | .quintic => Quintic.rowsAux | .septic => Septic.rowsAux
def rows : V o α → V o α → List (Seg o α) → List (BRow (R o α) (V o α)) :=
  match o with | .quintic => Quintic.rows | .septic => Septic.rows
def closeSeg : Seg o α → V o α → V o α → C o α := match o with | .quintic => Quintic.closeSeg | .septic => Septic.closeSeg
def closure : List (Seg o α) → List (V o α) → List (C o α) := match o with | .quintic => Quintic.closure | .septic => Septic.closure
def vsub : V o α → V o α → V o α := match o with | .quintic => V2.sub | .septic => V3.sub
def vadd : V o α → V o α → V o α := match o with | .quintic => V2.add | .septic => V3.add
def act : R o α → V o α → V o α := match o with | .quintic => M2.act | .septic => M3.act
def actT : R o α → V o α → V o α := match o with | .quintic => M2.actT | .septic => M3.actT
def inv : R o α → R o α := match o with | .quintic => M2.inv | .septic => M3.inv
def tr : R o α → R o α := match o with | .quintic => M2.transpose | .septic => M3.transpose
def det : R o α → α := match o with | .quintic => M2.det | .septic => M3.det
def seg1 : Seg o α → C o α → V o α → V o α → (α × α) × (V o α × V o α) × α :=
  match o with | .quintic => Quintic.seg1 | .septic => Septic.seg1
def loop1 : List (Seg o α) → List (C o α) → List (V o α) → List ((α × α) × (V o α × V o α) × α) :=
  match o with | .quintic => Quintic.loop1 | .septic => Septic.loop1
def oaddVAux : V o α → List (V o α × V o α) → List (V o α) :=
  match o with | .quintic => Quintic.oaddV2Aux | .septic => Septic.oaddV3Aux
def oaddV : List (V o α × V o α) → List (V o α) := match o with | .quintic => Quintic.oaddV2 | .septic => Septic.oaddV3
def block2 : Seg o α → Seg o α → V o α → V o α → V o α → V o α → (α × α × α) × (α × α) :=
  match o with | .quintic => Quintic.block2 | .septic => Septic.block2
def loop2 : List (Seg o α) → List (V o α) → List (V o α) → List ((α × α × α) × (α × α)) :=
  match o with | .quintic => Quintic.loop2 | .septic => Septic.loop2
def endU : Seg o α → List (Seg o α) → R o α := match o with | .quintic => Quintic.endU | .septic => Septic.endU
def propagate : Built o α → List (C o α) → Grads o α := match o with | .quintic => Quintic.propagate | .septic => Septic.propagate
def energySeg : α → C o α → α := match o with | .quintic => Quintic.energySeg | .septic => Septic.energySeg
def energy : List α → List (C o α) → α := match o with | .quintic => Quintic.energy | .septic => Septic.energy
def partialC : α → C o α → C o α := match o with | .quintic => Quintic.partialC | .septic => Septic.partialC
def partialT : α → C o α → α := match o with | .quintic => Quintic.partialT | .septic => Septic.partialT
def gradTime : C o α → α := match o with | .quintic => Quintic.gradTime | .septic => Septic.gradTime
def gradInner : List (C o α) → List α := match o with | .quintic => Quintic.gradInner | .septic => Septic.gradInner

/-! ### defining equations -/

variable (o)
theorem mkSegs_cons (h : α) (hs : List α) (p0 p1 : α) (ps : List α) :
    mkSegs o (h :: hs) (p0 :: p1 :: ps) = Seg.mk (mkTP o h) p0 (p1 - p0) :: mkSegs o hs (p1 :: ps) := by cases o <;> rfl
theorem mkSegs_nil (ps : List α) : mkSegs o [] ps = [] := by cases o <;> cases ps <;> rfl
theorem mkSegs_single (hs : List α) (p : α) : mkSegs o hs [p] = [] := by cases o <;> cases hs <;> rfl
theorem mkSegs_nil_right (hs : List α) : mkSegs o hs [] = [] := by cases o <;> cases hs <;> rfl

@[simp] theorem mkSegs_length (hs Ps : List α) : (mkSegs o hs Ps).length = min hs.length (Ps.length - 1) := by
  induction hs generalizing Ps with
  | nil => simp [mkSegs_nil]
  | cons h hs ih =>
    match Ps with
    | [] => simp [mkSegs_nil_right]
    | [_] => simp [mkSegs_single]
    | p0 :: p1 :: Ps => simp [mkSegs_cons, ih, Nat.succ_min_succ]

theorem mkSegs_tp (hs Ps : List α) : ∀ s ∈ mkSegs o hs Ps, ∃ h ∈ hs, s.tp = mkTP o h := by
  induction hs generalizing Ps with
  | nil => simp [mkSegs_nil]
  | cons h hs ih =>
    match Ps with
    | [] => simp [mkSegs_nil_right]
    | [_] => simp [mkSegs_single]
    | p0 :: p1 :: Ps =>
      intro s hs
      rw [mkSegs_cons] at hs
      rcases List.mem_cons.mp hs with rfl | hs
      · exact ⟨h, by simp, Seg.tp_mk ..⟩
      · obtain ⟨h', hh', e⟩ := ih (p1 :: Ps) s hs
        exact ⟨h', by simp [hh'], e⟩
variable {o}

theorem rowsAux_nil (bR : V o α) (first : Bool) (bL : V o α) (sL : Seg o α) : rowsAux bR first bL sL [] = [] := by
  cases o <;> rfl
theorem rowsAux_single (bR : V o α) (first : Bool) (bL : V o α) (sL sR : Seg o α) :
    rowsAux bR first bL sL [sR] =
      [⟨blockL sL.tp, blockD sL.tp sR.tp, blockU sR.tp,
        vsub (if first then vsub (blockRhs sL sR) (act (blockL sL.tp) bL) else blockRhs sL sR) (act (blockU sR.tp) bR)⟩] := by
  cases o <;> rfl
theorem rowsAux_cons (bR : V o α) (first : Bool) (bL : V o α) (sL sR s2 : Seg o α) (rest : List (Seg o α)) :
    rowsAux bR first bL sL (sR :: s2 :: rest) =
      ⟨blockL sL.tp, blockD sL.tp sR.tp, blockU sR.tp,
        if first then vsub (blockRhs sL sR) (act (blockL sL.tp) bL) else blockRhs sL sR⟩
        :: rowsAux bR false bL sR (s2 :: rest) := by
  cases o <;> rfl
/-- the matrix part of the first row `rowsAux` emits; `∃ b`: its right-hand side depends on `first` and on `rest` -/
theorem rowsAux_head (bR : V o α) (first : Bool) (bL : V o α) (sL sR : Seg o α) (rest : List (Seg o α)) :
    ∃ b, rowsAux bR first bL sL (sR :: rest)
      = ⟨blockL sL.tp, blockD sL.tp sR.tp, blockU sR.tp, b⟩ :: rowsAux bR false bL sR rest := by
  cases rest with
  | nil => exact ⟨_, by rw [rowsAux_single, rowsAux_nil]⟩
  | cons s2 rest => exact ⟨_, rowsAux_cons ..⟩
theorem rows_nil (bL bR : V o α) : rows bL bR [] = [] := by cases o <;> rfl
theorem rows_cons (bL bR : V o α) (s : Seg o α) (rest : List (Seg o α)) :
    rows bL bR (s :: rest) = rowsAux bR true bL s rest := by cases o <;> rfl

@[simp] theorem rowsAux_length (bR : V o α) (first : Bool) (bL : V o α) (sL : Seg o α) (rest : List (Seg o α)) :
    (rowsAux bR first bL sL rest).length = rest.length := by
  induction rest generalizing first sL with
  | nil => simp [rowsAux_nil]
  | cons sR rest ih => cases rest <;> simp [rowsAux_single, rowsAux_cons, ih]
@[simp] theorem rows_length (bL bR : V o α) (segs : List (Seg o α)) : (rows bL bR segs).length = segs.length - 1 := by
  cases segs <;> simp [rows_nil, rows_cons]

theorem closure_cons (s : Seg o α) (rest : List (Seg o α)) (k0 k1 : V o α) (ks : List (V o α)) :
    closure (s :: rest) (k0 :: k1 :: ks) = closeSeg s k0 k1 :: closure rest (k1 :: ks) := by cases o <;> rfl
theorem closure_nil (ks : List (V o α)) : closure ([] : List (Seg o α)) ks = [] := by cases o <;> cases ks <;> rfl
theorem closure_single (segs : List (Seg o α)) (k : V o α) : closure segs [k] = [] := by cases o <;> cases segs <;> rfl
theorem closure_nil_right (segs : List (Seg o α)) : closure segs ([] : List (V o α)) = [] := by cases o <;> cases segs <;> rfl

@[simp] theorem closure_length (segs : List (Seg o α)) (ks : List (V o α)) :
    (closure segs ks).length = min segs.length (ks.length - 1) := by
  induction segs generalizing ks with
  | nil => simp [closure_nil]
  | cons s rest ih =>
    match ks with
    | [] => simp [closure_nil_right]
    | [_] => simp [closure_single]
    | k0 :: k1 :: ks => simp [closure_cons, ih, Nat.succ_min_succ]

variable (o)
@[simp] theorem buildFull_segs (hs Ps : List α) (bL bR : V o α) : (buildFull o hs Ps bL bR).segs = mkSegs o hs Ps := by
  cases o <;> rfl
@[simp] theorem buildFull_facts (hs Ps : List α) (bL bR : V o α) :
    (buildFull o hs Ps bL bR).facts = bfwd none (rows bL bR (mkSegs o hs Ps)) := by cases o <;> rfl
@[simp] theorem buildFull_knots (hs Ps : List α) (bL bR : V o α) :
    (buildFull o hs Ps bL bR).knots = bL :: bthomas (rows bL bR (mkSegs o hs Ps)) ++ [bR] := by cases o <;> rfl
theorem build_eq (hs Ps : List α) (bL bR : V o α) :
    build o hs Ps bL bR = closure (mkSegs o hs Ps) (bL :: bthomas (rows bL bR (mkSegs o hs Ps)) ++ [bR]) := by
  cases o <;> rfl
theorem buildFull_lengths (hs Ps : List α) (bL bR : V o α) (hne : hs ≠ []) (hP : Ps.length = hs.length + 1) :
    (buildFull o hs Ps bL bR).segs.length = hs.length ∧ (buildFull o hs Ps bL bR).facts.length = hs.length - 1
    ∧ (buildFull o hs Ps bL bR).knots.length = hs.length + 1 := by
  have := List.length_pos_iff.mpr hne
  simp only [buildFull_segs, buildFull_facts, buildFull_knots, mkSegs_length, bfwd_length, rows_length, bthomas_length,
    List.length_cons, List.length_append, List.length_nil, hP]
  omega
theorem build_length (hs Ps : List α) (bL bR : V o α) (hP : Ps.length = hs.length + 1) :
    (build o hs Ps bL bR).length = hs.length := by
  simp only [build_eq, closure_length, mkSegs_length, List.length_cons, List.length_append, bthomas_length, rows_length,
    List.length_nil, hP]
  omega
variable {o}

theorem energy_cons (T : α) (Ts : List α) (c : C o α) (cs : List (C o α)) :
    energy (T :: Ts) (c :: cs) = energySeg T c + energy Ts cs := by cases o <;> rfl
theorem energy_nil (cs : List (C o α)) : energy ([] : List α) cs = lit 0 := by cases o <;> rfl

theorem loop1_cons (s : Seg o α) (ss : List (Seg o α)) (g : C o α) (gs : List (C o α)) (k0 k1 : V o α) (ks : List (V o α)) :
    loop1 (s :: ss) (g :: gs) (k0 :: k1 :: ks) = seg1 s g k0 k1 :: loop1 ss gs (k1 :: ks) := by cases o <;> rfl
theorem loop1_nil (gs : List (C o α)) (ks : List (V o α)) : loop1 ([] : List (Seg o α)) gs ks = [] := by
  cases o <;> cases gs <;> cases ks <;> rfl

theorem loop1_length (segs : List (Seg o α)) (gs : List (C o α)) (ks : List (V o α)) (hg : gs.length = segs.length)
    (hk : ks.length = segs.length + 1) : (loop1 segs gs ks).length = segs.length := by
  induction segs generalizing gs ks with
  | nil => simp [loop1_nil]
  | cons s ss ih =>
    match gs, ks, hg, hk with
    | g :: gs, k0 :: k1 :: ks, hg, hk => simp [loop1_cons, ih gs (k1 :: ks) (by simpa using hg) (by simpa using hk)]

theorem oaddVAux_nil (c : V o α) : oaddVAux c [] = [c] := by cases o <;> rfl
theorem oaddVAux_cons (c l r : V o α) (rest : List (V o α × V o α)) :
    oaddVAux c ((l, r) :: rest) = vadd c l :: oaddVAux r rest := by cases o <;> rfl
theorem oaddV_eq (l : List (V o α × V o α)) : oaddV l = oaddVAux (vzero o) l := by cases o <;> rfl

@[simp] theorem oaddVAux_length (c : V o α) (l : List (V o α × V o α)) : (oaddVAux c l).length = l.length + 1 := by
  induction l generalizing c with
  | nil => simp [oaddVAux_nil]
  | cons p rest ih => obtain ⟨a, b⟩ := p; simp [oaddVAux_cons, ih]
@[simp] theorem oaddV_length (l : List (V o α × V o α)) : (oaddV l).length = l.length + 1 := by simp [oaddV_eq]

theorem loop2_cons (sL sR : Seg o α) (ss : List (Seg o α)) (kp kc kn : V o α) (ks : List (V o α)) (lam : V o α)
    (lams : List (V o α)) :
    loop2 (sL :: sR :: ss) (kp :: kc :: kn :: ks) (lam :: lams)
      = block2 sL sR kp kc kn lam :: loop2 (sR :: ss) (kc :: kn :: ks) lams := by cases o <;> rfl
theorem loop2_nil (segs : List (Seg o α)) (ks : List (V o α)) : loop2 segs ks [] = [] := by
  cases o <;> (rcases segs with _ | ⟨_, _ | _⟩ <;> rcases ks with _ | ⟨_, _ | ⟨_, _ | _⟩⟩ <;> rfl)

theorem loop2_length (segs : List (Seg o α)) (ks lams : List (V o α)) (hs : segs.length = lams.length + 1)
    (hk : ks.length = lams.length + 2) : (loop2 segs ks lams).length = lams.length := by
  induction lams generalizing segs ks with
  | nil => simp [loop2_nil]
  | cons lam lams ih =>
    match segs, ks, hs, hk with
    | sL :: sR :: ss, kp :: kc :: kn :: ks, hs, hk =>
      simp [loop2_cons, ih (sR :: ss) (kc :: kn :: ks) (by simpa using hs) (by simpa using hk)]

theorem endU_single (s sR : Seg o α) : endU s [sR] = blockU sR.tp := by cases o <;> rfl
theorem endU_cons (s sR s2 : Seg o α) (ss : List (Seg o α)) : endU s (sR :: s2 :: ss) = endU sR (s2 :: ss) := by
  cases o <;> rfl

theorem propagate_points (b : Built o α) (gs : List (C o α)) :
    let l1 := loop1 b.segs gs b.knots
    let lam := bsolveT b.facts ((oaddV (l1.map (·.2.1))).tail.dropLast)
    (propagate b gs).points = zipAdd (oadd (l1.map (·.1))) (oadd3 ((loop2 b.segs b.knots lam).map (·.1))) := by
  cases o <;> rfl
theorem propagate_times (b : Built o α) (gs : List (C o α)) :
    let l1 := loop1 b.segs gs b.knots
    let lam := bsolveT b.facts ((oaddV (l1.map (·.2.1))).tail.dropLast)
    (propagate b gs).times = zipAdd (l1.map (·.2.2)) (oadd ((loop2 b.segs b.knots lam).map (·.2))) := by
  cases o <;> rfl
theorem propagate_ends_single (b : Built o α) (gs : List (C o α)) (s0 : Seg o α) (h : b.segs = [s0]) :
    let gd := oaddV ((loop1 b.segs gs b.knots).map (·.2.1))
    (propagate b gs).start = gd.headD (vzero o) ∧ (propagate b gs).fin = gd.getLastD (vzero o) := by
  cases o
  · exact Quintic.propagate_ends_single b gs s0 h
  · exact Septic.propagate_ends_single b gs s0 h
theorem propagate_ends_multi (b : Built o α) (gs : List (C o α)) (s0 s1 : Seg o α) (rest : List (Seg o α))
    (h : b.segs = s0 :: s1 :: rest) :
    let gd := oaddV ((loop1 b.segs gs b.knots).map (·.2.1))
    let lam := bsolveT b.facts (gd.tail.dropLast)
    (propagate b gs).start = vsub (gd.headD (vzero o)) (actT (blockL s0.tp) (lam.headD (vzero o)))
    ∧ (propagate b gs).fin = vsub (gd.getLastD (vzero o)) (actT (endU s0 (s1 :: rest)) (lam.getLastD (vzero o))) := by
  cases o
  · exact Quintic.propagate_ends_multi b gs s0 s1 rest h
  · exact Septic.propagate_ends_multi b gs s0 s1 rest h

end ops
end HS

/-! ### the lengths once more, in the model's own names (for `simp` / `rw` on goals about `Quintic.*` / `Septic.*`) -/
section
variable {α : Type} [Num α]
@[simp] theorem ST.Quintic.mkSegs_length (hs Ps : List α) : (Quintic.mkSegs hs Ps).length = min hs.length (Ps.length - 1) :=
  HS.mkSegs_length .quintic hs Ps
@[simp] theorem ST.Quintic.rows_length (bL bR : V2 α) (segs : List (Quintic.Seg α)) :
    (Quintic.rows bL bR segs).length = segs.length - 1 := HS.rows_length (o := .quintic) bL bR segs
@[simp] theorem ST.Quintic.closure_length (segs : List (Quintic.Seg α)) (ks : List (V2 α)) :
    (Quintic.closure segs ks).length = min segs.length (ks.length - 1) := HS.closure_length (o := .quintic) segs ks
@[simp] theorem ST.Septic.mkSegs_length (hs Ps : List α) : (Septic.mkSegs hs Ps).length = min hs.length (Ps.length - 1) :=
  HS.mkSegs_length .septic hs Ps
@[simp] theorem ST.Septic.rows_length (bL bR : V3 α) (segs : List (Septic.Seg α)) :
    (Septic.rows bL bR segs).length = segs.length - 1 := HS.rows_length (o := .septic) bL bR segs
@[simp] theorem ST.Septic.closure_length (segs : List (Septic.Seg α)) (ks : List (V3 α)) :
    (Septic.closure segs ks).length = min segs.length (ks.length - 1) := HS.closure_length (o := .septic) segs ks
end

/-! ### over a `DivRing`: ring / module structure, and the rows as a system with prescribed end values -/
namespace HS
variable {o : Deg} {K : Type} [DivRing K]

instance : Ring (R o K) := match o with | .quintic => inferInstanceAs (Ring (M2 K)) | .septic => inferInstanceAs (Ring (M3 K))
instance : AddCommGroup (V o K) :=
  match o with | .quintic => inferInstanceAs (AddCommGroup (V2 K)) | .septic => inferInstanceAs (AddCommGroup (V3 K))
instance : Module (R o K) (V o K) :=
  match o with | .quintic => inferInstanceAs (Module (M2 K) (V2 K)) | .septic => inferInstanceAs (Module (M3 K) (V3 K))

/-- the model's block operations are the ring / module operations -/
theorem blkOps_eq : (instBlkOps : BlkOps (R o K) (V o K)) = ringBlk inv tr := by cases o <;> rfl
@[simp] theorem vsub_eq (a b : V o K) : vsub a b = a - b := by cases o <;> rfl
@[simp] theorem vadd_eq (a b : V o K) : vadd a b = a + b := by cases o <;> rfl
@[simp] theorem act_eq (m : R o K) (v : V o K) : act m v = m • v := by cases o <;> rfl
@[simp] theorem actT_eq (m : R o K) (v : V o K) : actT m v = tr m • v := by cases o <;> rfl
theorem mul_inv (a : R o K) (h : DivRing.U (det a)) : a * inv a = 1 := by cases o; exacts [M2.mul_inv a h, M3.mul_inv a h]
theorem inv_mul (a : R o K) (h : DivRing.U (det a)) : inv a * a = 1 := by cases o; exacts [M2.inv_mul a h, M3.inv_mul a h]
@[simp] theorem vzero_eq : (vzero o : V o K) = 0 := by
  cases o
  · show (V2.zero : V2 K) = 0
    simp [V2.zero, V2.zero_def]
  · show (V3.zero : V3 K) = 0
    simp [V3.zero, V3.zero_def]

theorem energy_nil_right (hs : List K) : energy hs ([] : List (C o K)) = 0 := by
  cases o <;> cases hs <;> simp [energy, Quintic.energy, Septic.energy, lit_eq]

theorem energy_eq_sum (hs : List K) (cs : List (C o K)) : energy hs cs = (List.zipWith energySeg hs cs).sum := by
  induction hs generalizing cs with
  | nil => simp [energy_nil]
  | cons h hs ih => cases cs <;> simp [energy_nil_right, energy_cons, ih]

/-- the block rows of the interior knots with the plain right-hand sides `blockRhs`: the boundary states enter as the end
values of `BSolvesE` -/
def knotRows : List (Seg o K) → List (BRow (R o K) (V o K))
  | sL :: sR :: rest => ⟨blockL sL.tp, blockD sL.tp sR.tp, blockU sR.tp, blockRhs sL sR⟩ :: knotRows (sR :: rest)
  | _ => []

@[simp] theorem knotRows_length (segs : List (Seg o K)) : (knotRows segs).length = segs.length - 1 := by
  induction segs with
  | nil => rfl
  | cons s rest ih => cases rest <;> simp_all [knotRows]

/-- `endU` (block `num_blocks - 1` of `U_blocks_cache_`) is the `U` block of the last interior knot -/
theorem knotRows_last_u (s0 s1 : Seg o K) (rest : List (Seg o K)) :
    ((knotRows (s0 :: s1 :: rest)).map (·.u)).getLastD 0 = endU s0 (s1 :: rest) := by
  induction rest generalizing s0 s1 with
  | nil => simp [knotRows, endU_single]
  | cons s2 rest ih =>
    have := ih s1 s2
    simp only [knotRows, List.map_cons, List.getLastD_cons, endU_cons] at this ⊢
    exact this

theorem rowsAux_eq (bL bR : V o K) (first : Bool) (sL : Seg o K) (rest : List (Seg o K)) :
    rowsAux bR first bL sL rest = dirR bR ((if first then dirL bL else id) (knotRows (sL :: rest))) := by
  induction rest generalizing first sL with
  | nil => cases first <;> simp [rowsAux_nil, knotRows, dirL, dirR]
  | cons sR rest ih =>
    cases rest with
    | nil => cases first <;> simp [rowsAux_single, knotRows, dirL, dirR]
    | cons s2 rest =>
      rw [rowsAux_cons, ih false sR]
      cases first <;> simp [knotRows, dirL, dirR]

/-- **the rows the code eliminates** are the knot rows with the boundary states moved to the right-hand side -/
theorem rows_eq (bL bR : V o K) (segs : List (Seg o K)) : rows bL bR segs = dirR bR (dirL bL (knotRows segs)) := by
  cases segs with
  | nil => simp [rows_nil, knotRows, dirL, dirR]
  | cons s rest => rw [rows_cons, rowsAux_eq]; rfl

/-- the interior knot data the code computes solve the knot rows between the two boundary states, if no pivot is singular -/
theorem bthomas_solves (bL bR : V o K) (segs : List (Seg o K)) (hpiv : BPivOK inv none (rows bL bR segs)) :
    BSolvesE bL (knotRows segs) (bthomas (rows bL bR segs)) bR := by
  have := bthomas_correct inv tr _ hpiv
  rwa [← blkOps_eq, rows_eq, bsolves_dirichlet, ← rows_eq] at this

/-- … and are the only solution -/
theorem eq_bthomas (bL bR : V o K) (segs : List (Seg o K)) (hpiv : BPivOK2 inv none (rows bL bR segs)) (xs : List (V o K))
    (h : BSolvesE bL (knotRows segs) xs bR) : xs = bthomas (rows bL bR segs) := by
  rw [← bsolves_dirichlet, ← rows_eq] at h
  rw [bthomas_unique inv tr _ hpiv xs h, ← blkOps_eq]

end HS

/-! ### over a field: the dot product of block vectors, and the condition under which the elimination goes through -/

namespace QuinticAdj
variable {K : Type} [Field K]
def ip2 (a b : V2 K) : K := a.x * b.x + a.y * b.y

theorem ip2_pairing : IsPairing (R := M2 K) (V := V2 K) M2.transpose ip2 where
  add_left a b c := by simp [ip2, V2.add_def]; ring
  add_right a b c := by simp [ip2, V2.add_def]; ring
  adj m v w := by simp [ip2, V2.smul_def, M2.transpose]; ring

/-- no pivot determinant of the block elimination vanishes: the recursion of `bfwd` (first argument: what the previous row
left behind) in the ring operations of `M2 K` -/
def DetOK : Option (BFact (M2 K) (V2 K)) → List (BRow (M2 K) (V2 K)) → Prop
  | _, [] => True
  | none, r :: rs => M2.det r.d ≠ 0 ∧ DetOK (some ⟨M2.inv r.d, r.u, r.l, r.b⟩) rs
  | some p, r :: rs =>
      M2.det (r.d - r.l * (p.dinv * p.u)) ≠ 0 ∧
        DetOK (some ⟨M2.inv (r.d - r.l * (p.dinv * p.u)), r.u, r.l, r.b - r.l • (p.dinv • p.b)⟩) rs
end QuinticAdj

namespace SepticAdj
variable {K : Type} [Field K]
def ip3 (a b : V3 K) : K := a.x * b.x + a.y * b.y + a.z * b.z

theorem ip3_pairing : IsPairing (R := M3 K) (V := V3 K) M3.transpose ip3 where
  add_left a b c := by simp [ip3, V3.add_def]; ring
  add_right a b c := by simp [ip3, V3.add_def]; ring
  adj m v w := by simp [ip3, V3.smul_def, M3.transpose]; ring

def DetOK : Option (BFact (M3 K) (V3 K)) → List (BRow (M3 K) (V3 K)) → Prop
  | _, [] => True
  | none, r :: rs => M3.det r.d ≠ 0 ∧ DetOK (some ⟨M3.inv r.d, r.u, r.l, r.b⟩) rs
  | some p, r :: rs =>
      M3.det (r.d - r.l * (p.dinv * p.u)) ≠ 0 ∧
        DetOK (some ⟨M3.inv (r.d - r.l * (p.dinv * p.u)), r.u, r.l, r.b - r.l • (p.dinv • p.b)⟩) rs
end SepticAdj

namespace HS
open QuinticAdj SepticAdj
variable {o : Deg} {K : Type} [Field K]

def ip : V o K → V o K → K := match o with | .quintic => ip2 | .septic => ip3
theorem pairing : IsPairing (R := R o K) (V := V o K) tr ip := by cases o; exacts [ip2_pairing, ip3_pairing]

def DetOK : Option (BFact (R o K) (V o K)) → List (BRow (R o K) (V o K)) → Prop :=
  match o with | .quintic => QuinticAdj.DetOK | .septic => SepticAdj.DetOK

theorem detOK_nil (st : Option (BFact (R o K) (V o K))) : DetOK st [] := by cases o <;> cases st <;> trivial
theorem detOK_none (r : BRow (R o K) (V o K)) (rs : List (BRow (R o K) (V o K))) :
    DetOK none (r :: rs) ↔ det r.d ≠ 0 ∧ DetOK (some ⟨inv r.d, r.u, r.l, r.b⟩) rs := by cases o <;> rfl
theorem detOK_some (p : BFact (R o K) (V o K)) (r : BRow (R o K) (V o K)) (rs : List (BRow (R o K) (V o K))) :
    DetOK (some p) (r :: rs) ↔ det (r.d - r.l * (p.dinv * p.u)) ≠ 0 ∧
      DetOK (some ⟨inv (r.d - r.l * (p.dinv * p.u)), r.u, r.l, r.b - r.l • (p.dinv • p.b)⟩) rs := by cases o <;> rfl

/-- the closed-form inverses are two-sided inverses of the pivots -/
theorem detOK_pivOK2 (st : Option (BFact (R o K) (V o K))) (rows : List (BRow (R o K) (V o K))) (h : DetOK st rows) :
    BPivOK2 inv st rows := by
  induction rows generalizing st with
  | nil => cases st <;> trivial
  | cons r rs ih =>
    cases st with
    | none => rw [detOK_none] at h; exact ⟨⟨mul_inv _ h.1, inv_mul _ h.1⟩, ih _ h.2⟩
    | some p => rw [detOK_some] at h; exact ⟨⟨mul_inv _ h.1, inv_mul _ h.1⟩, ih _ h.2⟩

end HS

theorem ST.Quintic.C6.ext' {α : Type} {c d : Quintic.C6 α} (h0 : c.c0 = d.c0) (h1 : c.c1 = d.c1) (h2 : c.c2 = d.c2)
    (h3 : c.c3 = d.c3) (h4 : c.c4 = d.c4) (h5 : c.c5 = d.c5) : c = d := by
  cases c; cases d; simp_all
theorem ST.Septic.C8.ext' {α : Type} {c d : Septic.C8 α} (h0 : c.c0 = d.c0) (h1 : c.c1 = d.c1) (h2 : c.c2 = d.c2)
    (h3 : c.c3 = d.c3) (h4 : c.c4 = d.c4) (h5 : c.c5 = d.c5) (h6 : c.c6 = d.c6) (h7 : c.c7 = d.c7) : c = d := by
  cases c; cases d; simp_all

/-! ### the time powers as powers of `1 / h` (cheaper to clear of denominators than the products `mkTP` unfolds to) -/
theorem ST.Quintic.mkTP_inv {K : Type} [Field K] (h : K) :
    Quintic.mkTP h = ⟨h, 1/h, (1/h)^2, (1/h)^3, (1/h)^4, (1/h)^5, (1/h)^6⟩ := by
  simp only [Quintic.mkTP, lit_eq, Nat.cast_one, Quintic.TP.mk.injEq, true_and]; refine ⟨?_, ?_, ?_, ?_, ?_⟩ <;> ring
theorem ST.Septic.mkTP_inv {K : Type} [Field K] (h : K) :
    Septic.mkTP h = ⟨h, 1/h, (1/h)^2, (1/h)^3, (1/h)^4, (1/h)^5, (1/h)^6, (1/h)^7⟩ := by
  simp only [Septic.mkTP, lit_eq, Nat.cast_one, Septic.TP.mk.injEq, true_and]; refine ⟨?_, ?_, ?_, ?_, ?_, ?_⟩ <;> ring

/-! at duration `1` they are all `1`: an identity about one segment is a polynomial identity there -/
theorem ST.Quintic.mkTP_one {K : Type} [Field K] : Quintic.mkTP (1 : K) = ⟨1, 1, 1, 1, 1, 1, 1⟩ := by simp [Quintic.mkTP]
theorem ST.Septic.mkTP_one {K : Type} [Field K] : Septic.mkTP (1 : K) = ⟨1, 1, 1, 1, 1, 1, 1, 1⟩ := by simp [Septic.mkTP]
