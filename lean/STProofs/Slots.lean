import STModel
import Mathlib.Tactic.Linarith
/-!
# No query ever reads a cache slot that the latest update did not write (C10)

Access summaries of the three spline classes and of the optimizer workspace, written down from the code: for an
update with `N` segments, which indices of every cache / workspace array are (re)written, and which indices each query
reads afterwards.  The arrays survive from earlier updates (they are only `resize`d), so a slot that is read but not
rewritten would leak history.  `no_stale_read`: for every order, every `N ≥ 1`, every array and every index, *read
⇒ written by this update* — including the early-return paths (`num_blocks ≤ 0` leaves the block caches untouched,
and then nothing reads them) and the `max(0, num_blocks−1)` cache.

The model follows a slot array through an arbitrary history of updates by tagging each slot with the generation that
last wrote it.
-/

inductive Ord3 where
  | cubic | quintic | septic
deriving DecidableEq, Repr

/-- the arrays that outlive an update -/
inductive Cache where
  | timePowers | pointDiffs | cumulative | coeffs | knotDerivs      -- all orders (knotDerivs: M resp. vel/acc/jerk)
  | cPrime | invDenoms                                              -- cubic LU cache
  | dInv | uBlk | lBlk | dltCache | rhsMod | solution               -- quintic / septic block caches
  | wsLambda | wsGd                                                 -- adjoint workspaces (written by the query itself)
deriving DecidableEq, Repr

def coeffNum : Ord3 → Nat
  | .cubic => 4 | .quintic => 6 | .septic => 8
def blockSize : Ord3 → Nat
  | .cubic => 1 | .quintic => 2 | .septic => 3

/-- number of interior block rows of the quintic/septic solve: `num_blocks = n - 2` for `n = P.rows()` points, one less than
the number of segments -/
def numBlocks (n : Nat) : Nat := n - 1

/-- indices of array `c` that `update` with `n ≥ 1` segments writes (order `o`) -/
def written (o : Ord3) (n : Nat) (c : Cache) (i : Nat) : Prop :=
  match c with
  | .timePowers => i < n
  | .pointDiffs => i < n
  | .cumulative => i < n + 1
  | .coeffs => i < n * coeffNum o
  | .knotDerivs => i < n + 1
  | .cPrime => o = .cubic ∧ i < n
  | .invDenoms => o = .cubic ∧ i < n + 1
  | .dInv | .uBlk | .lBlk => o ≠ .cubic ∧ i < numBlocks n           -- the loop `for i < num_blocks` (not entered when 0)
  | .dltCache => o ≠ .cubic ∧ i + 1 < numBlocks n                    -- written at `i-1` for `i > 0`
  | .rhsMod | .solution => o ≠ .cubic ∧ i < numBlocks n * blockSize o
  | .wsLambda | .wsGd => False                                       -- query workspaces: see `queryWrites`

/-- indices the read-only queries and `propagateGrad` read after an update with `n` segments -/
def readBy (o : Ord3) (n : Nat) (c : Cache) (i : Nat) : Prop :=
  match c with
  | .timePowers => i < n
  | .pointDiffs => i < n
  | .cumulative => i < n + 1
  | .coeffs => i < n * coeffNum o
  | .knotDerivs => i < n + 1
  | .cPrime => o = .cubic ∧ i + 1 < n + 1                            -- back substitution `i = n-2 … 0` of n+1 rows
  | .invDenoms => o = .cubic ∧ i < n + 1                             -- bounded by `cached_inv_denoms_.size()`
  | .dInv => o ≠ .cubic ∧ 0 < numBlocks n ∧ i < numBlocks n          -- guarded by `num_blocks > 0`
  | .uBlk => o ≠ .cubic ∧ 0 < numBlocks n ∧ i < numBlocks n
  | .lBlk => o ≠ .cubic ∧ 0 < numBlocks n ∧ i = 0
  | .dltCache => o ≠ .cubic ∧ 0 < numBlocks n ∧ i + 2 ≤ numBlocks n
  | .rhsMod | .solution => False                                     -- only used inside the update itself
  | .wsLambda | .wsGd => False

/-- **no stale read**: every slot any query reads was written by the latest update -/
theorem no_stale_read (o : Ord3) (n : Nat) (hn : 1 ≤ n) (c : Cache) (i : Nat) (h : readBy o n c i) : written o n c i := by
  cases c <;> simp only [readBy, written] at h ⊢
  all_goals first
    | exact h
    | (obtain ⟨h1, h2⟩ := h; exact ⟨h1, by omega⟩)

/-- the adjoint workspaces are sized and fully (re)initialised by the query itself before it reads them:
`ws_lambda_.resize(…); setZero()/assignment of every row`, `ws_gd_internal_.resize(n_pts, …); setZero()` -/
def queryWrites (o : Ord3) (n : Nat) (c : Cache) (i : Nat) : Prop :=
  match c with
  | .wsLambda => if o = .cubic then i < n + 1 else i < numBlocks n * blockSize o
  | .wsGd => o ≠ .cubic ∧ i < n + 1
  | _ => False
def queryReads (o : Ord3) (n : Nat) (c : Cache) (i : Nat) : Prop :=
  match c with
  | .wsLambda => if o = .cubic then i < n + 1 else (0 < numBlocks n ∧ i < numBlocks n * blockSize o)
  | .wsGd => o ≠ .cubic ∧ i < n + 1
  | _ => False

theorem queries_self_contained (o : Ord3) (n : Nat) (c : Cache) (i : Nat) (h : queryReads o n c i) : queryWrites o n c i := by
  cases c <;> simp only [queryReads, queryWrites] at h ⊢
  all_goals first
    | exact h
    | (split at h <;> simp_all)

/-! ### following one array through a history of updates: generations -/

/-- a slot array where each slot remembers the generation (update number) that last wrote it.  `resize` is modelled as
keeping every old slot: `std::vector::resize` does; Eigen's `resize` may discard the contents instead, and a slot left with
an old generation stands for that too -/
abbrev Gens := Nat → Option Nat      -- index ↦ generation of last write (`none`: never written)

def applyUpdate (g : Gens) (gen : Nat) (w : Nat → Prop) [DecidablePred w] : Gens :=
  fun i => if w i then some gen else g i

/-- run a history of updates (segment counts) on one array of one spline object -/
def runUpdates (o : Ord3) (c : Cache) [∀ n, DecidablePred (written o n c)] : Gens → Nat → List Nat → Gens × Nat
  | g, gen, [] => (g, gen)
  | g, gen, n :: ns => runUpdates o c (applyUpdate g (gen + 1) (written o n c)) (gen + 1) ns

instance (o : Ord3) (n : Nat) (c : Cache) : DecidablePred (written o n c) := by
  intro i; cases c <;> simp only [written] <;> infer_instance

/-- **after any history of updates of any sizes (growing, shrinking, through N = 1 and N = 2), every slot that a query
reads carries the generation of the latest update** -/
theorem reads_latest (o : Ord3) (c : Cache) (g : Gens) (gen : Nat) (ns : List Nat) (n : Nat) (hn : 1 ≤ n) (i : Nat)
    (hr : readBy o n c i) :
    (runUpdates o c g gen (ns ++ [n])).1 i = some (runUpdates o c g gen (ns ++ [n])).2 := by
  induction ns generalizing g gen with
  | nil =>
    simp only [List.nil_append, runUpdates, applyUpdate]
    rw [if_pos (no_stale_read o n hn c i hr)]
  | cons m ms ih =>
    simp only [List.cons_append, runUpdates]
    exact ih _ _

/-- the optimizer workspace: `Workspace::resize(n)` re-sizes only on a size change, and `evaluate` overwrites or zeroes
every array it later reads, for the current `n`, on every call -/
inductive WsArray where
  | cacheTimes | cacheWaypoints | cacheGdT | cacheGdC | userGdT | explicitTime | discreteGradQ | segStart | segCosts
deriving DecidableEq, Repr

def wsWritten (nc : Nat) (n : Nat) : WsArray → Nat → Prop
  | .cacheTimes, i => i < n            -- loop `for i < num_segments_`
  | .cacheWaypoints, i => i < n + 1    -- assignment `= ref_waypoints_`
  | .cacheGdT, i => i < n              -- setZero
  | .cacheGdC, i => i < n * nc         -- setZero
  | .userGdT, i => i < n               -- setZero
  | .explicitTime, i => i < n          -- setZero
  | .discreteGradQ, i => i < n + 1     -- setZero (when a waypoint cost is present; not read otherwise)
  | .segStart, i => i < n              -- loop
  | .segCosts, i => i < n              -- std::fill

def wsRead (nc : Nat) (n : Nat) : WsArray → Nat → Prop
  | .cacheTimes, i => i < n
  | .cacheWaypoints, i => i < n + 1
  | .cacheGdT, i => i < n
  | .cacheGdC, i => i < n * nc
  | .userGdT, i => i < n
  | .explicitTime, i => i < n
  | .discreteGradQ, i => i < n + 1
  | .segStart, i => i < n
  | .segCosts, i => i < n

theorem ws_no_stale_read (nc n : Nat) (a : WsArray) (i : Nat) (h : wsRead nc n a i) : wsWritten nc n a i := by
  cases a <;> exact h

/-- non-vacuity: with three segments a slot of the `max(0, num_blocks−1)` cache is read -/
example : readBy .septic 3 .dltCache 0 := by simp [readBy, numBlocks]
/-- with one segment (`num_blocks = 0`, the early return) no block cache is read -/
example : ¬ readBy .quintic 1 .dInv 0 := by simp [readBy, numBlocks]
