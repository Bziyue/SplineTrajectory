import STProofs.Alg
import STProofs.PPolyCacheAny
/-!
# Lazy caches of `PPolyND` never serve stale data (C11)

`CacheInv p`: whenever a ready flag is set, the cached table equals what would be computed from the object's
*current* coefficients.  Every operation preserves it, `update` (any outcome) re-establishes it by invalidating,
and under it every evaluation equals the cache-free evaluation of the current data — so after any history of
updates, evaluations at arbitrary orders, derivative constructions and copies, an evaluation reflects only the
latest update.

None of this uses a law of arithmetic: the arguments are in `PPolyCacheAny.lean`, for an arbitrary `NumOrd K`.  Here the
same definitions are stated with the field instance `ordNum` the other theorems use, and every theorem is the `AnyNum`
one at that instance: `derivTable`, `sameData`, `evalSegPure` unfold to their `AnyNum` twins, `CacheInv` and `POp` are
copies of structures and are carried across by `CacheInv.any` / `POp.any`.
-/
open ST

section
variable {K : Type} [Field K] [LinearOrder K] [FloorRing K]

/-- the derivative-coefficient table computed from the current data, without any cache -/
def derivTable (p : PPoly K) : List (List (List (Vec K))) :=
  (List.range p.numCoeffs).map (fun d =>
    p.coeffs.map (fun seg =>
      (List.range (p.numCoeffs - d)).map (fun k => vscale (lit (factorEntry (k + d) d)) (seg.getD (k + d) []))))

structure CacheInv (p : PPoly K) : Prop where
  deriv : p.derivReady = true → (p.coeffs = [] ∧ p.derivCoeffs = []) ∨ (p.numCoeffs = 0 ∧ p.derivCoeffs = []) ∨ p.derivCoeffs = derivTable p
  table : p.factorReady = true → p.factorTable = PPoly.buildTable p.numCoeffs
  wf : p.numSegments = 0 → p.coeffs = []

/-- the data an update installs (everything except the caches) -/
def sameData (p q : PPoly K) : Prop :=
  p.dim = q.dim ∧ p.fixedOrder = q.fixedOrder ∧ p.breakpoints = q.breakpoints ∧ p.coeffs = q.coeffs ∧
  p.numSegments = q.numSegments ∧ p.numCoeffs = q.numCoeffs ∧ p.initialized = q.initialized

theorem CacheInv.any {p : PPoly K} (h : CacheInv p) : AnyNum.CacheInv p := ⟨h.deriv, h.table, h.wf⟩
theorem CacheInv.ofAny {p : PPoly K} (h : AnyNum.CacheInv p) : CacheInv p := ⟨h.deriv, h.table, h.wf⟩

theorem init_inv (p : PPoly K) (bps : List K) (rows : List (Vec K)) (nc : Int) : CacheInv (p.init bps rows nc) :=
  .ofAny (AnyNum.init_inv p bps rows nc)

/-- a factor lookup returns the falling-factorial entry whatever path it takes, and does not disturb the object -/
theorem derivativeFactor_spec (p : PPoly K) (h : CacheInv p) (n k : Nat) (hn : n < p.numCoeffs) :
    (p.derivativeFactor n k).2 = factorEntry n k ∧ CacheInv (p.derivativeFactor n k).1 ∧
    sameData p (p.derivativeFactor n k).1 :=
  (AnyNum.derivativeFactor_spec p h.any n k hn).imp id (.imp .ofAny id)

/-- `buildDerivativeCoefficients` fills the cache with exactly the table of the current data -/
theorem buildDerivCoeffs_spec (p : PPoly K) (h : CacheInv p) :
    CacheInv p.buildDerivCoeffs ∧ sameData p p.buildDerivCoeffs ∧ p.buildDerivCoeffs.derivReady = true :=
  (AnyNum.buildDerivCoeffs_spec p h.any).imp .ofAny id

/-- cache-free evaluation of derivative `k` of piece `seg` at local time `t` -/
noncomputable def evalSegPure (p : PPoly K) (seg : Nat) (t : K) (k : Int) : Vec K :=
  if k ≥ (p.numCoeffs : Int) || k < 0 then vzero p.dim
  else PPoly.horner t (((derivTable p).getD k.toNat []).getD seg [])

/-- **an evaluation never serves stale data**: whatever the cache state (consistent with `CacheInv`), the value is
the cache-free evaluation of the current coefficients -/
theorem evalSegment_spec (p : PPoly K) (h : CacheInv p) (seg : Nat) (t : K) (k : Int) :
    (p.evalSegment seg t k).2 = evalSegPure p seg t k ∧ CacheInv (p.evalSegment seg t k).1 ∧
    sameData p (p.evalSegment seg t k).1 :=
  (AnyNum.evalSegment_spec p h.any seg t k).imp id (.imp .ofAny id)

/-- `evalSegment_spec` for the time-based `evaluate(t, k)`: the lookup does not touch the object -/
theorem evaluate_spec (p : PPoly K) (h : CacheInv p) (t : K) (k : Int) :
    (p.evaluate t k).2 =
      (if k ≥ (p.numCoeffs : Int) then vzero p.dim
       else evalSegPure p (p.findSegment t) (t - p.breakpoints.getD (p.findSegment t) (lit 0)) k) ∧
    CacheInv (p.evaluate t k).1 ∧ sameData p (p.evaluate t k).1 :=
  (AnyNum.evaluate_spec p h.any t k).imp id (.imp .ofAny id)

/-- the outcome of an update depends on the old object only through its (immutable) dimension and order parameter -/
theorem init_sameData (p p' : PPoly K) (bps : List K) (rows : List (Vec K)) (nc : Int)
    (hd : p.dim = p'.dim) (hf : p.fixedOrder = p'.fixedOrder) : sameData (p.init bps rows nc) (p'.init bps rows nc) :=
  AnyNum.init_sameData p p' bps rows nc hd hf

/-- operations on a piecewise-polynomial object (copies are identities in a value model) -/
inductive POp (K : Type) where
  | update (bps : List K) (rows : List (Vec K)) (nc : Int)
  | eval (t : K) (k : Int)
  | evalHint (t : K) (hint : Int) (k : Int)
  | segEval (seg : Nat) (t : K) (k : Int)
  | deriv (k : Int)

noncomputable def ST.PPoly.apply (p : PPoly K) : POp K → PPoly K
  | .update bps rows nc => p.init bps rows nc
  | .eval t k => (p.evaluate t k).1
  | .evalHint t hint k => (p.evaluateHint t hint k).1
  | .segEval seg t k => (p.evalSegment seg t k).1
  | .deriv k => (p.derivative k).1

def POp.any : POp K → AnyNum.POp K
  | .update bps rows nc => .update bps rows nc
  | .eval t k => .eval t k
  | .evalHint t hint k => .evalHint t hint k
  | .segEval seg t k => .segEval seg t k
  | .deriv k => .deriv k

theorem apply_eq_any (p : PPoly K) (op : POp K) : p.apply op = AnyNum.applyA p op.any := by cases op <;> rfl

theorem derivative_inv (p : PPoly K) (h : CacheInv p) (k : Int) :
    CacheInv (p.derivative k).1 ∧ sameData p (p.derivative k).1 ∧ CacheInv (p.derivative k).2 :=
  (AnyNum.derivative_inv p h.any k).imp .ofAny (.imp id .ofAny)

/-- every operation leaves the caches consistent with the data -/
theorem apply_inv (p : PPoly K) (h : CacheInv p) (op : POp K) : CacheInv (p.apply op) :=
  apply_eq_any p op ▸ .ofAny (AnyNum.apply_inv p h.any op.any)

def POp.isUpdate : POp K → Bool
  | .update .. => true
  | _ => false

omit [Field K] [LinearOrder K] [FloorRing K] in
theorem POp.isUpdate_any (op : POp K) : op.any.isUpdate = op.isUpdate := by cases op <;> rfl

noncomputable def ST.PPoly.run (p : PPoly K) : List (POp K) → PPoly K
  | [] => p
  | op :: ops => (p.apply op).run ops

theorem run_eq_any (p : PPoly K) (ops : List (POp K)) : p.run ops = AnyNum.runA p (ops.map POp.any) := by
  induction ops generalizing p with
  | nil => rfl
  | cons op ops ih => exact (ih _).trans (by rw [apply_eq_any]; rfl)

theorem run_inv (p : PPoly K) (h : CacheInv p) (ops : List (POp K)) : CacheInv (p.run ops) :=
  run_eq_any p ops ▸ .ofAny (AnyNum.run_inv p h.any _)

theorem run_data (p : PPoly K) (h : CacheInv p) (ops : List (POp K)) (hops : ∀ op ∈ ops, op.isUpdate = false) :
    sameData p (p.run ops) :=
  run_eq_any p ops ▸ AnyNum.run_data p h.any _ (List.forall_mem_map.2 fun op hop => (op.isUpdate_any).trans (hops op hop))

/-- **C11**: take any object state, any history `pre`, then an update with new data, then any history `post` of
evaluations at arbitrary orders / hinted evaluations / per-segment evaluations / derivative constructions: a final
evaluation returns what a fresh object initialised with the same data returns — nothing of what happened before or in
between can leak into it.  (`dim` and `fixedOrder` stand for the template parameters `DIM`, `ORDER`; the two premises
say that `pre` has left them alone.) -/
theorem eval_after_history (p0 : PPoly K) (h0 : CacheInv p0) (pre post : List (POp K))
    (bps : List K) (rows : List (Vec K)) (nc : Int) (hpost : ∀ op ∈ post, op.isUpdate = false) (t : K) (k : Int) :
    let fresh := (PPoly.empty p0.dim p0.fixedOrder : PPoly K).init bps rows nc
    let q := ((p0.run pre).init bps rows nc).run post
    (p0.run pre).dim = p0.dim → (p0.run pre).fixedOrder = p0.fixedOrder →
    (q.evaluate t k).2 = (fresh.evaluate t k).2 := by
  simp only [run_eq_any]
  exact AnyNum.eval_after_history p0 h0.any _ _ bps rows nc
    (List.forall_mem_map.2 fun op hop => (op.isUpdate_any).trans (hpost op hop)) t k

end
