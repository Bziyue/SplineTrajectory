import STProofs.CubicUnique
/-!
# C14 (cubic): time reversal — every N, via uniqueness

`revC h c` is `c` run backwards over `[0,h]` (`ev_revC`, `ev1_revC`, `ev2_revC`).  A spline is a *path of knot
states* `(position, velocity, acceleration)`: piece `i` starts in state `i` and ends in state `i+1` (`Path`); reversing
the pieces and their order reverses the path, the velocities changing sign (`path_reverse`).  The built pieces are a path
through the waypoints from velocity `v₀` to velocity `vₙ` (`cubic_build_path`); the reversed list is therefore a path
through the reversed waypoints from `−vₙ` to `−v₀`, and a path is the spline built from its knots and end velocities
(`path_unique`).
-/
open ST ST.Cubic CubicEG CubicU

namespace CubicRev
section field
variable {K : Type} [Field K]

def revC (h : K) (c : C4 K) : C4 K := ⟨ev c h, -(ev1 c h), ev2 c h / 2, -c.c3⟩

def flipS (s : K × K × K) : K × K × K := (s.1, -s.2.1, s.2.2)
def revL (l : List (K × C4 K)) : List (K × C4 K) := (l.map fun x => (x.1, revC x.1 x.2)).reverse

theorem revL_fst (l : List (K × C4 K)) : (revL l).map Prod.fst = (l.map Prod.fst).reverse := by
  simp [revL, List.map_reverse, Function.comp_def]

theorem revL_snd (l : List (K × C4 K)) :
    (revL l).map Prod.snd = (List.zipWith revC (l.map Prod.fst) (l.map Prod.snd)).reverse := by
  simp [revL, List.map_reverse, Function.comp_def, List.zipWith_map, List.zipWith_self]

theorem revL_zip (hs : List K) (cs : List (C4 K)) (hl : cs.length = hs.length) :
    revL (hs.zip cs) = hs.reverse.zip (List.zipWith revC hs cs).reverse := by
  have h := (List.zip_unzip (revL (hs.zip cs))).symm
  rwa [List.unzip_eq_map, revL_fst, revL_snd, List.map_fst_zip (by simp [hl]), List.map_snd_zip (by simp [hl])] at h

variable [CharZero K]

theorem ev_revC (h t : K) (c : C4 K) : ev (revC h c) t = ev c (h - t) := by
  simp only [revC, ev, ev1, ev2]; ring
theorem ev1_revC (h t : K) (c : C4 K) : ev1 (revC h c) t = -ev1 c (h - t) := by
  simp only [revC, ev, ev1, ev2]; ring
theorem ev2_revC (h t : K) (c : C4 K) : ev2 (revC h c) t = ev2 c (h - t) := by
  simp only [revC, ev, ev1, ev2]; ring

theorem St_revC (h t : K) (c : C4 K) : St (revC h c) t = flipS (St c (h - t)) := by
  simp only [St, flipS, ev_revC, ev1_revC, ev2_revC]

theorem path_reverse (a b : K × K × K) (l : List (K × C4 K)) (h : Path a l b) :
    Path (flipS b) (revL l) (flipS a) ∧ knotsOf (revL l) (flipS a) = (knotsOf l b).reverse := by
  refine ⟨?_, ?_⟩
  · induction l generalizing a with
    | nil => cases h; rfl
    | cons x l ih =>
      obtain ⟨h0, hp⟩ := h
      simp only [revL, List.map_cons, List.reverse_cons, path_append]
      refine ⟨_, ih _ hp, ?_, ?_⟩
      · rw [St_revC, sub_zero]
      · rw [St_revC, sub_self, h0]; exact rfl
  · rw [← knots_shift a b l h]
    simp only [knotsOf, revL, List.map_reverse, List.map_map, Function.comp_def, ev_revC, sub_zero,
      List.reverse_cons, flipS]

end field

variable {K : Type} [Field K] [LinearOrder K] [IsStrictOrderedRing K]

theorem energySeg_rev (h : K) (c : C4 K) : energySeg h (revC h c) = energySeg h c := by
  simp only [energySeg, revC, ev, ev1, ev2, lit_eq]; ring

/-- **C14 (cubic): time reversal** — the spline of the reversed durations and waypoints with boundary velocities `−vₙ`, `−v₀`
consists of the original pieces, each run backwards (`revC`), in reverse order -/
theorem build_reverse (hs Ps : List K) (v0 vn : K) (hpos : PosList hs) (hne0 : hs ≠ []) (hP : Ps.length = hs.length + 1) :
    build hs.reverse Ps.reverse (-vn) (-v0) = (List.zipWith revC hs (build hs Ps v0 vn)).reverse := by
  obtain ⟨a, b, hp, ha, hb, hPs⟩ := cubic_build_path v0 vn hs Ps hpos hne0 hP
  have hl : (build hs Ps v0 vn).length = hs.length := by simp [hP]
  obtain ⟨hp', hk⟩ := path_reverse a b _ hp
  rw [revL_zip hs _ hl] at hp' hk
  have := path_unique hs.reverse _ _ _ ((posList_iff _).mpr fun x hx => (posList_iff hs).mp hpos x (List.mem_reverse.mp hx))
    (by simpa using hne0) (by simp [hl]) hp'
  rw [hk, ← hPs] at this
  simpa [flipS, ha, hb] using this.symm

end CubicRev
