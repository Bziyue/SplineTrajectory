import STProofs.CubicKKT
import STProofs.HermiteKKT
import STProofs.EnergyIntegral
import STProofs.CubicMinimal
import STProofs.HermiteMinimal
import STProofs.CubicUnique
import Mathlib.Analysis.Calculus.ContDiff.Deriv
import STProofs.Structure
import STProofs.ListSums
import Mathlib.Algebra.BigOperators.Intervals
/-!
# C02 — minimum acceleration / jerk / snap interpolant (property theorems, every N, positive durations)

All three parts of the property are theorems:

* **optimality conditions**: interpolation, C¹…C^{s−1} and the boundary states (`cubic_build_spec`,
  `quintic_build_hermite`, `septic_build_hermite`) and continuity of the derivatives s…2s−2 at every interior knot
  (`cubic_build_spec`, `QuinticPiv.quintic_KKT`, `SepticPiv.septic_KKT`) — unconditionally, because no pivot of the block
  elimination vanishes (`pivok_cubic`, `QuinticPiv.detOK_of_pos`, `SepticPiv.detOK_of_pos`);
* **uniqueness**: any knot derivatives whose Hermite closure satisfies the optimality conditions are the computed ones
  (`QuinticPiv.quintic_unique`, `SepticPiv.septic_unique`); any C² interpolating cubic pieces with the prescribed boundary
  velocities are the published ones (`CubicU.cubic_unique`);
* **minimality among all sufficiently smooth curves**: `C02_minimiser_cubic` / `_quintic` / `_septic` (for `C²` / `C³` / `C⁴`
  competitors, stated with `ContDiff` / `deriv`), instances of `CubicMin.cubic_minimal`, `QuinticMin.quintic_minimal`,
  `SepticMin.septic_minimal` (competitor given by its derivative chain with a continuous top derivative).
-/
open ST

/-- a `Cⁿ` function and its iterated derivatives form a derivative chain with a continuous last member -/
theorem deriv_chain {n : ℕ} {g : ℝ → ℝ} (hg : ContDiff ℝ n g) :
    (∀ k, k < n → ∀ t, HasDerivAt (deriv^[k] g) (deriv^[k + 1] g t) t) ∧ Continuous (deriv^[n] g) := by
  simp only [← iteratedDeriv_eq_iterate, iteratedDeriv_succ]
  exact ⟨fun k hk t => (hg.differentiable_iteratedDeriv k (by exact_mod_cast hk) t).hasDerivAt,
    hg.continuous_iteratedDeriv' n⟩

/-- **the full variational statement (cubic)**: among all C² curves through the same waypoints at the same knot times
with the same boundary velocities, the built spline has the least ∫ (second derivative)² — the left-hand side is the
reported energy (`cubic_energy_total`: it *is* the integral of the squared second derivative of the built pieces). -/
theorem C02_minimiser_cubic (h P : List ℝ) (v0 vn : ℝ) (hpos : PosList h) (hne : h ≠ []) (hP : P.length = h.length + 1)
    (g : ℝ → ℝ) (hg : ContDiff ℝ 2 g)
    (hk : ∀ i, i ≤ h.length → g ((cumulative (0:ℝ) h).getD i 0) = P.getD i 0)
    (hv0 : deriv g 0 = v0) (hvn : deriv g h.sum = vn) :
    Cubic.energy h (Cubic.build h P v0 vn) ≤ ∫ t in (0:ℝ)..h.sum, (deriv (deriv g) t) ^ 2 := by
  obtain ⟨hd, hc⟩ := deriv_chain (n := 2) (by exact_mod_cast hg)
  have comp : CubicMin.Comp g (deriv g) (deriv (deriv g)) := ⟨hd 0 (by norm_num), hd 1 (by norm_num), hc⟩
  have := CubicMin.cubic_minimal h P v0 vn hpos hne hP g (deriv g) (deriv (deriv g)) comp 0
    (CubicMin.thru_of_getD g 0 h P hP hk) hv0 (by simpa using hvn)
  simpa using this

/-- **the full variational statement (quintic)**: among all C³ curves through the same waypoints at the same knot times with
the same boundary velocities and accelerations, the built spline has the least ∫ (third derivative)² -/
theorem C02_minimiser_quintic (h P : List ℝ) (bL bR : V2 ℝ) (hpos : ∀ x ∈ h, 0 < x) (hne : h ≠ [])
    (hP : P.length = h.length + 1) (g : ℝ → ℝ) (hg : ContDiff ℝ 3 g)
    (hk : ∀ i, i ≤ h.length → g ((cumulative (0:ℝ) h).getD i 0) = P.getD i 0)
    (hv0 : deriv g 0 = bL.x) (ha0 : deriv (deriv g) 0 = bL.y)
    (hvn : deriv g h.sum = bR.x) (han : deriv (deriv g) h.sum = bR.y) :
    Quintic.energy h (Quintic.build h P bL bR) ≤ ∫ t in (0:ℝ)..h.sum, (deriv (deriv (deriv g)) t) ^ 2 := by
  obtain ⟨hd, hc⟩ := deriv_chain (n := 3) (by exact_mod_cast hg)
  have comp : QuinticMin.Comp g (deriv g) (deriv (deriv g)) (deriv (deriv (deriv g))) :=
    ⟨hd 0 (by norm_num), hd 1 (by norm_num), hd 2 (by norm_num), hc⟩
  have := QuinticMin.quintic_minimal h P bL bR hpos hne hP g _ _ _ comp 0
    (CubicMin.thru_of_getD g 0 h P hP hk) hv0 ha0 (by simpa using hvn) (by simpa using han)
  simpa using this

/-- **the full variational statement (septic)**: among all C⁴ curves through the same waypoints at the same knot times with
the same boundary velocities, accelerations and jerks, the built spline has the least ∫ (fourth derivative)² -/
theorem C02_minimiser_septic (h P : List ℝ) (bL bR : V3 ℝ) (hpos : ∀ x ∈ h, 0 < x) (hne : h ≠ [])
    (hP : P.length = h.length + 1) (g : ℝ → ℝ) (hg : ContDiff ℝ 4 g)
    (hk : ∀ i, i ≤ h.length → g ((cumulative (0:ℝ) h).getD i 0) = P.getD i 0)
    (hv0 : deriv g 0 = bL.x) (ha0 : deriv (deriv g) 0 = bL.y) (hj0 : deriv (deriv (deriv g)) 0 = bL.z)
    (hvn : deriv g h.sum = bR.x) (han : deriv (deriv g) h.sum = bR.y) (hjn : deriv (deriv (deriv g)) h.sum = bR.z) :
    Septic.energy h (Septic.build h P bL bR) ≤ ∫ t in (0:ℝ)..h.sum, (deriv (deriv (deriv (deriv g))) t) ^ 2 := by
  obtain ⟨hd, hc⟩ := deriv_chain (n := 4) (by exact_mod_cast hg)
  have comp : SepticMin.Comp g (deriv g) (deriv (deriv g)) (deriv (deriv (deriv g))) (deriv (deriv (deriv (deriv g)))) :=
    ⟨hd 0 (by norm_num), hd 1 (by norm_num), hd 2 (by norm_num), hd 3 (by norm_num), hc⟩
  have := SepticMin.septic_minimal h P bL bR hpos hne hP g _ _ _ _ comp 0
    (CubicMin.thru_of_getD g 0 h P hP hk) hv0 ha0 hj0 (by simpa using hvn) (by simpa using han) (by simpa using hjn)
  simpa using this

/-- cubic: optimality conditions, unconditional (all of `cubic_build_spec`, despite the name) -/
theorem C02_cubic_partial {K : Type} [Field K] [LinearOrder K] [IsStrictOrderedRing K]
    (v0 vn : K) (h P : List K) (hp : PosList h) (hne : h ≠ []) (hlen : P.length = h.length + 1) :
    CubicSpec vn h P (Cubic.build h P v0 vn) ∧ ∀ p ps, Cubic.build h P v0 vn = p :: ps → ev1 p 0 = v0 :=
  cubic_build_spec v0 vn h P hp hne hlen

/-- quintic: derivatives 3–4 continuous at every interior knot, with no hypothesis on the pivots -/
theorem C02_quintic_KKT {K : Type} [Field K] [LinearOrder K] [IsStrictOrderedRing K]
    (hs Ps : List K) (bL bR : V2 K) (hpos : ∀ h ∈ hs, 0 < h) (hP : Ps.length = hs.length + 1) :
    QuinticK.JumpFree34 hs (Quintic.build hs Ps bL bR) :=
  QuinticPiv.quintic_KKT hs Ps bL bR hpos hP

/-- septic: derivatives 4–6 continuous at every interior knot, with no hypothesis on the pivots -/
theorem C02_septic_KKT {K : Type} [Field K] [LinearOrder K] [IsStrictOrderedRing K]
    (hs Ps : List K) (bL bR : V3 K) (hpos : ∀ h ∈ hs, 0 < h) (hP : Ps.length = hs.length + 1) :
    SepticK.JumpFree456 hs (Septic.build hs Ps bL bR) :=
  SepticPiv.septic_KKT hs Ps bL bR hpos hP

/-- non-vacuity (minimality): the straight line through collinear waypoints is a competitor of the cubic theorem -/
example : CubicMin.Comp (fun t => 2 * t) (fun _ => 2) (fun _ => 0) ∧
    CubicMin.Thru (fun t => 2 * t) 0 [1, 2] [0, 2, 6] := by
  refine ⟨⟨fun t => by simpa using (hasDerivAt_id t).const_mul (2:ℝ), fun t => hasDerivAt_const t (2:ℝ),
    continuous_const⟩, ?_⟩
  simp only [CubicMin.Thru]
  norm_num

/-- non-vacuity of the positivity hypothesis -/
example : ∀ h ∈ ([1, 2, 1/2] : List ℚ), 0 < h := by
  simp

/-! ### D dimensions: the object the user holds

The energy the D-dimensional object reports is the sum over coordinates of the 1-D energies (`energy_is_sum`, C13), and each
coordinate is the 1-D minimiser; hence for every D-tuple of competitors through the same waypoints / knot times / boundary
states the reported energy is at most the sum of their energies ∑ⱼ ∫ (gⱼ⁽ˢ⁾)². -/
open scoped BigOperators

namespace MinimalND

theorem energy_le_sum (o : Order) (d : Nat) (h : List ℝ) (P : List (Vec ℝ)) (t0 : ℝ) (bc : BC ℝ) (I : Nat → ℝ)
    (hcol : ∀ j, j < d → (colOf o h P bc j).energy ≤ I j) : (buildND o d h P t0 bc).energy ≤ ∑ j ∈ Finset.range d, I j := by
  rw [(energy_is_sum o d h P t0 bc).1, stsum_map_range]
  exact Finset.sum_le_sum fun j hj => hcol j (Finset.mem_range.mp hj)

theorem minimiser_ND_cubic (d : Nat) (h : List ℝ) (P : List (Vec ℝ)) (t0 : ℝ) (bc : BC ℝ) (hpos : PosList h) (hne : h ≠ [])
    (hP : P.length = h.length + 1) (g : Nat → ℝ → ℝ) (hg : ∀ j, j < d → ContDiff ℝ 2 (g j))
    (hk : ∀ j, j < d → ∀ i, i ≤ h.length → g j ((cumulative (0:ℝ) h).getD i 0) = getC (P.getD i []) j)
    (hv0 : ∀ j, j < d → deriv (g j) 0 = getC bc.v0 j) (hvn : ∀ j, j < d → deriv (g j) h.sum = getC bc.vn j) :
    (buildND .cubic d h P t0 bc).energy
      ≤ ∑ j ∈ Finset.range d, ∫ t in (0:ℝ)..h.sum, (deriv (deriv (g j)) t) ^ 2 := by
  refine energy_le_sum .cubic d h P t0 bc _ fun j hj' => ?_
  exact C02_minimiser_cubic h (P.map (fun r => getC r j)) (getC bc.v0 j) (getC bc.vn j) hpos hne (by simp [hP]) (g j)
    (hg j hj') (fun i hi => by rw [← getC_col]; exact hk j hj' i hi) (hv0 j hj') (hvn j hj')

theorem minimiser_ND_quintic (d : Nat) (h : List ℝ) (P : List (Vec ℝ)) (t0 : ℝ) (bc : BC ℝ) (hpos : ∀ x ∈ h, 0 < x)
    (hne : h ≠ []) (hP : P.length = h.length + 1) (g : Nat → ℝ → ℝ) (hg : ∀ j, j < d → ContDiff ℝ 3 (g j))
    (hk : ∀ j, j < d → ∀ i, i ≤ h.length → g j ((cumulative (0:ℝ) h).getD i 0) = getC (P.getD i []) j)
    (hv0 : ∀ j, j < d → deriv (g j) 0 = getC bc.v0 j) (ha0 : ∀ j, j < d → deriv (deriv (g j)) 0 = getC bc.a0 j)
    (hvn : ∀ j, j < d → deriv (g j) h.sum = getC bc.vn j) (han : ∀ j, j < d → deriv (deriv (g j)) h.sum = getC bc.an j) :
    (buildND .quintic d h P t0 bc).energy
      ≤ ∑ j ∈ Finset.range d, ∫ t in (0:ℝ)..h.sum, (deriv (deriv (deriv (g j))) t) ^ 2 := by
  refine energy_le_sum .quintic d h P t0 bc _ fun j hj' => ?_
  exact C02_minimiser_quintic h (P.map (fun r => getC r j)) ⟨getC bc.v0 j, getC bc.a0 j⟩ ⟨getC bc.vn j, getC bc.an j⟩ hpos hne
    (by simp [hP]) (g j) (hg j hj') (fun i hi => by rw [← getC_col]; exact hk j hj' i hi) (hv0 j hj') (ha0 j hj')
    (hvn j hj') (han j hj')

theorem minimiser_ND_septic (d : Nat) (h : List ℝ) (P : List (Vec ℝ)) (t0 : ℝ) (bc : BC ℝ) (hpos : ∀ x ∈ h, 0 < x)
    (hne : h ≠ []) (hP : P.length = h.length + 1) (g : Nat → ℝ → ℝ) (hg : ∀ j, j < d → ContDiff ℝ 4 (g j))
    (hk : ∀ j, j < d → ∀ i, i ≤ h.length → g j ((cumulative (0:ℝ) h).getD i 0) = getC (P.getD i []) j)
    (hv0 : ∀ j, j < d → deriv (g j) 0 = getC bc.v0 j) (ha0 : ∀ j, j < d → deriv (deriv (g j)) 0 = getC bc.a0 j)
    (hj0 : ∀ j, j < d → deriv (deriv (deriv (g j))) 0 = getC bc.j0 j)
    (hvn : ∀ j, j < d → deriv (g j) h.sum = getC bc.vn j) (han : ∀ j, j < d → deriv (deriv (g j)) h.sum = getC bc.an j)
    (hjn : ∀ j, j < d → deriv (deriv (deriv (g j))) h.sum = getC bc.jn j) :
    (buildND .septic d h P t0 bc).energy
      ≤ ∑ j ∈ Finset.range d, ∫ t in (0:ℝ)..h.sum, (deriv (deriv (deriv (deriv (g j)))) t) ^ 2 := by
  refine energy_le_sum .septic d h P t0 bc _ fun j hj' => ?_
  exact C02_minimiser_septic h (P.map (fun r => getC r j)) ⟨getC bc.v0 j, getC bc.a0 j, getC bc.j0 j⟩
    ⟨getC bc.vn j, getC bc.an j, getC bc.jn j⟩ hpos hne (by simp [hP]) (g j) (hg j hj')
    (fun i hi => by rw [← getC_col]; exact hk j hj' i hi) (hv0 j hj') (ha0 j hj') (hj0 j hj') (hvn j hj') (han j hj') (hjn j hj')

end MinimalND
