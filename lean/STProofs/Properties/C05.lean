import STProofs.CubicAdjoint
import STProofs.HermiteAdjoint
import STProofs.HermiteUnique
import STProofs.NDAdjoint
/-!
# C05 — gradient propagation is the exact adjoint (property theorems: cubic, quintic and septic, every N)

All three orders are unconditional for positive durations (`C05_cubic`, `C05_quintic_pos`, `C05_septic_pos`).
The quintic / septic theorems are first proved under `DetOK` — no pivot determinant of the block elimination of the
*real* system vanishes (the code divides by exactly these determinants) — which also covers non-positive durations
with non-singular pivots; `QuinticPiv.detOK_of_pos` / `SepticPiv.detOK_of_pos` discharge it for positive durations.
In D dimensions: `NDAdj.propagateND_adjoint` — for the D-dimensional spline object (`buildND` / `propagateND`, all orders), the
upstream gradient paired with the derivative of the coefficient blocks plus `⟨gT, dT⟩` equals the pairing of everything
`propagateGrad` returns with the tangent of waypoints, durations and boundary states (both sides split over the coordinates:
`blockDotL_coeffs`, `ndPair_ofCols`; per column: `col_adjoint`; `blockDot_cols` states rows ↔ columns on its own).
-/
open ST ST.Cubic

theorem C05_cubic {K : Type} [Field K] [LinearOrder K] [IsStrictOrderedRing K]
    (hs Ps : List (Dual K)) (v0 vn : Dual K) (gs : List (C4 K)) (gT : List K)
    (hpos : ∀ h ∈ hs, 0 < h.re) (hne : hs ≠ [])
    (hP : Ps.length = hs.length + 1) (hg : gs.length = hs.length) (hgT : gT.length = hs.length) :
    let segsR := mkSegs (hs.map Dual.re) (Ps.map Dual.re)
    let out := propagate v0.re vn.re segsR (knotM v0.re vn.re segsR) gs
    gdotC gs (build hs Ps v0 vn) + dot gT (hs.map Dual.du)
      = dot out.points (Ps.map Dual.du) + dot (zipAdd gT out.times) (hs.map Dual.du)
        + out.v0 * v0.du + out.vn * vn.du :=
  cubic_adjoint hs Ps v0 vn gs gT hpos hne hP hg hgT

/-- the model's `propagate` is a function of its arguments (no state), so repeated calls return the same: `rfl` -/
theorem C05_pure {K : Type} [Field K] (v0 vn : K) (segs : List (Seg K)) (ms : List K) (gs : List (C4 K)) :
    propagate v0 vn segs ms gs = propagate v0 vn segs ms gs := rfl

/-- non-vacuity: two segments, dual durations with non-zero tangents -/
example : (∀ h ∈ ([⟨1, 1⟩, ⟨2, -1⟩] : List (Dual ℚ)), 0 < h.re) ∧ ([⟨1, 1⟩, ⟨2, -1⟩] : List (Dual ℚ)) ≠ [] := by
  simp

/-- quintic (`propagateGrad` of `QuinticSplineND`, one coordinate): for every tangent direction
`(dP, dT, d b_L, d b_R)`, upstream gradient paired with the derivative of the coefficients = returned gradients
paired with the direction -/
theorem C05_quintic {K : Type} [Field K] [CharZero K]
    (hs Ps : List (Dual K)) (bL bR : V2 (Dual K)) (gs : List (Quintic.C6 K)) (gT : List K)
    (hne0 : hs ≠ []) (hne : ∀ h ∈ hs, h.re ≠ 0)
    (hP : Ps.length = hs.length + 1) (hg : gs.length = hs.length) (hgT : gT.length = hs.length)
    (hdet : QuinticAdj.DetOK none (Quintic.rows (QuinticAdj.V2re bL) (QuinticAdj.V2re bR)
      (Quintic.mkSegs (hs.map Dual.re) (Ps.map Dual.re)))) :
    let b := Quintic.buildFull (hs.map Dual.re) (Ps.map Dual.re) (QuinticAdj.V2re bL) (QuinticAdj.V2re bR)
    let out := Quintic.propagate b gs
    QuinticAdj.gdotC6 gs (Quintic.build hs Ps bL bR) + dot gT (hs.map Dual.du)
      = dot out.points (Ps.map Dual.du) + dot (zipAdd gT out.times) (hs.map Dual.du)
        + QuinticAdj.ip2 out.start (QuinticAdj.V2du bL) + QuinticAdj.ip2 out.fin (QuinticAdj.V2du bR) :=
  QuinticAdj.quintic_adjoint hs Ps bL bR gs gT hne0 hne hP hg hgT hdet

theorem C05_septic {K : Type} [Field K] [CharZero K]
    (hs Ps : List (Dual K)) (bL bR : V3 (Dual K)) (gs : List (Septic.C8 K)) (gT : List K)
    (hne0 : hs ≠ []) (hne : ∀ h ∈ hs, h.re ≠ 0)
    (hP : Ps.length = hs.length + 1) (hg : gs.length = hs.length) (hgT : gT.length = hs.length)
    (hdet : SepticAdj.DetOK none (Septic.rows (SepticAdj.V3re bL) (SepticAdj.V3re bR)
      (Septic.mkSegs (hs.map Dual.re) (Ps.map Dual.re)))) :
    let b := Septic.buildFull (hs.map Dual.re) (Ps.map Dual.re) (SepticAdj.V3re bL) (SepticAdj.V3re bR)
    let out := Septic.propagate b gs
    SepticAdj.gdotC8 gs (Septic.build hs Ps bL bR) + dot gT (hs.map Dual.du)
      = dot out.points (Ps.map Dual.du) + dot (zipAdd gT out.times) (hs.map Dual.du)
        + SepticAdj.ip3 out.start (SepticAdj.V3du bL) + SepticAdj.ip3 out.fin (SepticAdj.V3du bR) :=
  SepticAdj.septic_adjoint hs Ps bL bR gs gT hne0 hne hP hg hgT hdet

/-- non-vacuity of the pivot hypothesis: a concrete 3-segment problem satisfies it (quintic) -/
example : QuinticAdj.DetOK none
    (Quintic.rows (⟨0, 0⟩ : V2 ℚ) ⟨1, 0⟩ (Quintic.mkSegs [1, 2, 1] [0, 1, 3, 2])) :=
  QuinticPiv.detOK_of_pos _ _ _ _ (by simp)

/-- … and septic -/
example : SepticAdj.DetOK none
    (Septic.rows (⟨0, 0, 0⟩ : V3 ℚ) ⟨1, 0, 0⟩ (Septic.mkSegs [1, 2, 1] [0, 1, 3, 2])) :=
  SepticPiv.detOK_of_pos _ _ _ _ (by simp)

/-- quintic, unconditional for positive durations -/
theorem C05_quintic_pos {K : Type} [Field K] [LinearOrder K] [IsStrictOrderedRing K]
    (hs Ps : List (Dual K)) (bL bR : V2 (Dual K)) (gs : List (Quintic.C6 K)) (gT : List K)
    (hne0 : hs ≠ []) (hpos : ∀ h ∈ hs, 0 < h.re)
    (hP : Ps.length = hs.length + 1) (hg : gs.length = hs.length) (hgT : gT.length = hs.length) :
    let b := Quintic.buildFull (hs.map Dual.re) (Ps.map Dual.re) (QuinticAdj.V2re bL) (QuinticAdj.V2re bR)
    let out := Quintic.propagate b gs
    QuinticAdj.gdotC6 gs (Quintic.build hs Ps bL bR) + dot gT (hs.map Dual.du)
      = dot out.points (Ps.map Dual.du) + dot (zipAdd gT out.times) (hs.map Dual.du)
        + QuinticAdj.ip2 out.start (QuinticAdj.V2du bL) + QuinticAdj.ip2 out.fin (QuinticAdj.V2du bR) :=
  QuinticPiv.quintic_adjoint_pos hs Ps bL bR gs gT hne0 hpos hP hg hgT

/-- septic, unconditional for positive durations -/
theorem C05_septic_pos {K : Type} [Field K] [LinearOrder K] [IsStrictOrderedRing K]
    (hs Ps : List (Dual K)) (bL bR : V3 (Dual K)) (gs : List (Septic.C8 K)) (gT : List K)
    (hne0 : hs ≠ []) (hpos : ∀ h ∈ hs, 0 < h.re)
    (hP : Ps.length = hs.length + 1) (hg : gs.length = hs.length) (hgT : gT.length = hs.length) :
    let b := Septic.buildFull (hs.map Dual.re) (Ps.map Dual.re) (SepticAdj.V3re bL) (SepticAdj.V3re bR)
    let out := Septic.propagate b gs
    SepticAdj.gdotC8 gs (Septic.build hs Ps bL bR) + dot gT (hs.map Dual.du)
      = dot out.points (Ps.map Dual.du) + dot (zipAdd gT out.times) (hs.map Dual.du)
        + SepticAdj.ip3 out.start (SepticAdj.V3du bL) + SepticAdj.ip3 out.fin (SepticAdj.V3du bR) :=
  SepticPiv.septic_adjoint_pos hs Ps bL bR gs gT hne0 hpos hP hg hgT
