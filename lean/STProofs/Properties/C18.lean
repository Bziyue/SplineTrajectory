import STProofs.CubicKKT
import STProofs.HermiteKKT
/-! # C18 — in exact arithmetic every defining equation has residual zero (so any residual of the code is rounding)

No theorem bounds the rounding error: Lean's `Float` is opaque to the kernel and a backward-error analysis of the
unpivoted block elimination is out of reach here.  The property is decided by exploration (residual search). -/
