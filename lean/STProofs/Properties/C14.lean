import STProofs.Structure
import STProofs.CubicSym
import STProofs.CubicRev
import STProofs.CubicRevGrad
import STProofs.HermiteRevGrad
/-!
# C14 — time shift, translation, amplitude scaling, time scaling (every N, positive durations, all three orders)

* time shift: `cumulative_shift`, `shift_invariant` (knot times shift; per-segment polynomials, energy, duration and inner-point
  gradients, coefficient partials unchanged);
* translation / amplitude scaling: `CubicTr.build_translate`, `CubicSym.build_scale`, `QuinticSym.build_affine`,
  `SepticSym.build_affine` (waypoints `λ·P + a`, boundary states `λ·b` ⇒ coefficients `λ·c + (a,0,…)`), with
  `energySeg_scale` / `energySeg_affine` (energy × λ², independent of `a`);
* time scaling: `CubicSym/QuinticSym/SepticSym.build_timescale` (durations × μ, k-th boundary derivative ÷ μᵏ ⇒ `c_k / μᵏ`, the
  same curve run at speed 1/μ), `energySeg_timescale` (energy × μ^-(2s−1)).

Each order has one transfer principle (`build_transform`) of which these are instances (the cubic translation, which needs no
positive durations, is proved from its parts).  Cubic: the transformed data
give the tridiagonal system with scaled rows, whose solution is unique (`knotM_unique`).  Quintic / septic: from the
uniqueness theorems of C02 — a transformation that maps Hermite closures to Hermite closures and preserves the optimality
conditions maps the spline to the spline.

* time reversal (all orders): `CubicRev.build_reverse`, `QuinticRev.build_reverse`, `SepticRev.build_reverse` — reversed waypoints and durations,
  odd boundary derivatives negated, start/end swapped ⇒ piece `i` of the reversed spline is `τ ↦ c_{N-1-i}(h − τ)`;
  `energySeg_rev` (same energy).

* mirrored gradients (all orders): `CubicRev/QuinticRev/SepticRev.energyGrads_reverse` — for the reversed problem the
  duration gradients (`getEnergyGradTimes`) and inner-point gradients (`getEnergyGradInnerPoints`) are the original ones in
  reverse order, the boundary gradients swap start and end with the odd components (velocity, jerk) negated, and the energy
  is the same.  The duration gradient is a first integral of the optimal piece (`gradTime_rev`), which is why it can be
  read off at either end.
-/
open ST

theorem C14_cubic_scale {K : Type} [Field K] [LinearOrder K] [IsStrictOrderedRing K]
    (lam : K) (hs Ps : List K) (v0 vn : K) (hpos : PosList hs) :
    Cubic.build hs (Ps.map (lam * ·)) (lam * v0) (lam * vn) = (Cubic.build hs Ps v0 vn).map (CubicSym.scC lam) :=
  CubicSym.build_scale lam hs Ps v0 vn hpos

/-- non-vacuity -/
example : PosList ([1, 2, 1/2] : List ℚ) := by simp [PosList]
