import STProofs.CostDecomp
import STProofs.SampleTraj
import STProofs.SamplesAny
/-!
# C08 — cost decomposition and sample fidelity

* `evaluate_cost`: the returned cost is time cost + Σ segment integrals + waypoint cost + (ρ·energy when ρ > 0), at the
  decoded durations / waypoints / trajectory; `evaluate_segCost`, `quadSegment_cost`: each segment integral is the trapezoid
  sum over `K + 1` nodes with weights `½, 1, …, 1, ½` times `T/K`;
* `quadStep_sample`, `quadSegment_samples`, `segStarts_spec`: node `k` of segment `i` carries the segment index, local time
  `(k/K)·T_i`, global time `start + Σ_{j<i} T_j + (k/K)·T_i`;
* `basis_cubic/quintic/septic`: the basis rows give value and derivatives of the segment's polynomial;
* **joined with the trajectory object** (`SampleTraj.sample_block`, `SampleTraj.sample_is_trajectory`): the position, velocity,
  acceleration, jerk and snap handed to the running cost are, coordinate by coordinate, what `getTrajectory().evaluate(t_global, m)`
  returns — the optimizer's table of basis-row constants and `PPolyND`'s falling-factorial derivative tables compute the same
  derivatives (`Traj.basis_dRow_gen`), for positive durations, every order, dimension, N and node inside its segment's
  half-open interval (`sample_is_trajectory` for the derivative orders `m < coeffNum`; the cubic snap row is covered by
  `sample_block`);
* for an arbitrary scalar type, hence bit for bit at `Float` (`SamplesAny`): `AnyNum.quadSegment_samples`,
  `AnyNum.quadStep_sample_seg`, `AnyNum.quadSegment_samples_functor_indep` — one sample per node in node order, the same
  whatever the functor answers.
-/
