import STProofs.EnergyIntegral
import STProofs.Structure
import STProofs.ListSums
import Mathlib.Algebra.BigOperators.Intervals
/-!
# C04 — reported energy = ∫ ‖x⁽ˢ⁾‖² (over ℝ), non-negative, sum over coordinates

Per coordinate: `cubic/quintic/septic_energy_integral` (closed form of one segment = ∫₀ᵀ (p⁽ˢ⁾)²), `…_energy_total` (sum over
segments), `…_energy_nonneg`.  For the D-dimensional object the user holds: `C04.energyND_integral` — the energy it reports is
the sum over coordinates and segments of those integrals, i.e. ∫ ‖x⁽ˢ⁾(t)‖² dt of the published trajectory, and it is
non-negative (`C04.energyND_nonneg`).
-/
open ST
open scoped BigOperators

namespace C04

/-- ∑ over segments of ∫₀^{T_i} (s-th derivative of coordinate j's piece i)², for the three orders -/
noncomputable def colEnergyInt (o : Order) (h : List ℝ) (P : List (Vec ℝ)) (bc : BC ℝ) (j : Nat) : ℝ :=
  let Pj := P.map (fun r => getC r j)
  match o with
  | .cubic => Cubic.energyInt h (Cubic.build h Pj (getC bc.v0 j) (getC bc.vn j))
  | .quintic => Quintic.energyInt h (Quintic.build h Pj ⟨getC bc.v0 j, getC bc.a0 j⟩ ⟨getC bc.vn j, getC bc.an j⟩)
  | .septic => Septic.energyInt h (Septic.build h Pj ⟨getC bc.v0 j, getC bc.a0 j, getC bc.j0 j⟩
                  ⟨getC bc.vn j, getC bc.an j, getC bc.jn j⟩)

/-- **the energy reported by the D-dimensional spline is the integral of the squared s-th derivative of its trajectory**
(sum over coordinates and segments), for every order, dimension, N and duration vector -/
theorem energyND_integral (o : Order) (d : Nat) (h : List ℝ) (P : List (Vec ℝ)) (t0 : ℝ) (bc : BC ℝ) :
    (buildND o d h P t0 bc).energy = ∑ j ∈ Finset.range d, colEnergyInt o h P bc j := by
  rw [(energy_is_sum o d h P t0 bc).1, stsum_map_range]
  apply Finset.sum_congr rfl
  intro j _
  cases o with
  | cubic => simp only [colOf, colCubic, colEnergyInt, cubic_energy_total]
  | quintic => simp only [colOf, colQuintic, colEnergyInt, quintic_energy_total]
  | septic => simp only [colOf, colSeptic, colEnergyInt, septic_energy_total]

/-- a sum over the segments of integrals of squares — `X (T :: Ts) (c :: cs) = ∫₀ᵀ (u c)² + X Ts cs`, and `0` when a list runs
out — is non-negative -/
theorem segSum_nonneg {β : Type} (X : List ℝ → List β → ℝ) (u : β → ℝ → ℝ)
    (hc : ∀ T Ts c cs, X (T :: Ts) (c :: cs) = (∫ t in (0:ℝ)..T, u c t ^ 2) + X Ts cs) (hl : ∀ cs, X [] cs = 0)
    (hr : ∀ Ts, X Ts [] = 0) (Ts : List ℝ) (cs : List β) (hT : ∀ T ∈ Ts, 0 ≤ T) : 0 ≤ X Ts cs := by
  induction Ts generalizing cs with
  | nil => rw [hl]
  | cons T Ts ih =>
    cases cs with
    | nil => rw [hr]
    | cons c cs =>
      rw [hc]
      exact add_nonneg (intervalIntegral.integral_nonneg (hT T (by simp)) fun t _ => sq_nonneg _)
        (ih cs fun x hx => hT x (by simp [hx]))

/-- the reported energy is non-negative (non-negative durations suffice) -/
theorem energyND_nonneg (o : Order) (d : Nat) (h : List ℝ) (P : List (Vec ℝ)) (t0 : ℝ) (bc : BC ℝ) (hT : ∀ T ∈ h, 0 ≤ T) :
    0 ≤ (buildND o d h P t0 bc).energy := by
  rw [energyND_integral]
  apply Finset.sum_nonneg
  intro j _
  cases o with
  | cubic =>
    exact segSum_nonneg Cubic.energyInt Cubic.acc (fun _ _ _ _ => rfl) (fun cs => by cases cs <;> rfl)
      (fun Ts => by cases Ts <;> rfl) _ _ hT
  | quintic =>
    exact segSum_nonneg Quintic.energyInt Quintic.jerk (fun _ _ _ _ => rfl) (fun cs => by cases cs <;> rfl)
      (fun Ts => by cases Ts <;> rfl) _ _ hT
  | septic =>
    exact segSum_nonneg Septic.energyInt Septic.snap (fun _ _ _ _ => rfl) (fun cs => by cases cs <;> rfl)
      (fun Ts => by cases Ts <;> rfl) _ _ hT

end C04
