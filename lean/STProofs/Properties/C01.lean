import STProofs.CubicKKT
import STProofs.Hermite
import STProofs.TimeForms
import STProofs.HermiteUnique
import STProofs.Trajectory
/-!
# C01 — interpolation, boundary states (property theorems)

Cubic: `cubic_build_spec` (every N ≥ 1, every positive duration vector, unconditional: all pivots are proved
positive).  Quintic / septic interpolation and boundary states: `quintic_build_hermite`, `septic_build_hermite` (closure
identities, for whatever the elimination returns; the length hypothesis `hin` they carry follows from the other hypotheses:
`HS.build_hermite` is proved without it).
Time specification: `buildNDtp_cumulative` (absolute time points ≡ durations + start time), `cumulative_last`,
`cumulative_length` (knot-time bookkeeping).

End to end, on the object the user queries: `Traj.traj_eval` — the trajectory a D-dimensional spline publishes
(`initializePPoly` on the cumulative times and the stacked blocks, then `findSegment` + Horner evaluation) evaluates at any
time `t`, coordinate by coordinate, to the polynomial of the segment containing `t` at local time `t − t_i`; and
`Traj.traj_at_knot` — it passes through waypoint `i` at knot time `i`, for every order, dimension, N ≥ 1 and all positive
durations (`specIdx_getD`, `colOf_interp`); `Traj.traj_eval_k` — the same for every derivative order `k < coeffNum`
(`evaluate(t, k)` is the `k`-th derivative of that polynomial); `Traj.traj_boundary` — the derivatives `1 … s−1` of the
published trajectory at the first / last knot are the start / end boundary states (velocity; acceleration for quintic and
septic; jerk for septic).
-/
open ST ST.Cubic

/-- C01 (cubic) restated: the published pieces interpolate both waypoints of every segment, are C¹/C² and honour
both boundary velocities. -/
theorem C01_cubic {K : Type} [Field K] [LinearOrder K] [IsStrictOrderedRing K]
    (v0 vn : K) (h P : List K) (hp : PosList h) (hne : h ≠ []) (hlen : P.length = h.length + 1) :
    CubicSpec vn h P (build h P v0 vn) ∧ ∀ p ps, build h P v0 vn = p :: ps → ev1 p 0 = v0 :=
  cubic_build_spec v0 vn h P hp hne hlen

/-- non-vacuity: a concrete 3-segment problem meets every hypothesis -/
example : PosList ([1, 1/2, 2] : List ℚ) ∧ ([1, 1/2, 2] : List ℚ) ≠ [] ∧ ([0, 1, 3, 4] : List ℚ).length = ([1, 1/2, 2] : List ℚ).length + 1 := by
  simp [PosList]
