import STProofs.PPolyCache
import STProofs.PPolyCacheAny
/-! # C11 — lazy caches and copies never serve stale data -/
/-! `eval_after_history`: after any history that leaves dimension and fixed order as they were (two hypotheses of the statement),
an evaluation reflects only the latest update.
`AnyNum.eval_after_history` / `AnyNum.eval_after_history_float`: the same theorem for every scalar type that carries the
model's operations (no law of arithmetic is used), hence for IEEE doubles: a reused object answers *bit for bit* like a fresh one. -/
