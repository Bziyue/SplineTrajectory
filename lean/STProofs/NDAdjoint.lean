import STProofs.Cols
import STProofs.ColShape
import STProofs.HermiteUnique
import STProofs.CubicAdjoint
/-!
# C05 / C13 in D dimensions: `propagateGrad` of the D-dimensional spline is the exact adjoint of its construction map

Both sides of the identity split into sums over the coordinates (`blockDotL_coeffs`, `ndPair_ofCols` in `Cols`); per
coordinate the 1-D adjoint theorems of C05 apply (`col_adjoint`).
-/
open ST QuadDual
open scoped BigOperators

namespace NDAdj
variable {K : Type} [Field K]

def colv (rows : List (Vec K)) (j : Nat) : List K := rows.map (fun r => getC r j)

/-- **rows ↔ columns**: a sum of row pairings is the sum over coordinates of the column pairings -/
theorem blockDot_cols (d : Nat) (A B : List (Vec K)) (hA : ∀ a ∈ A, a.length = d) (hB : ∀ b ∈ B, b.length = d) :
    blockDot A B = ∑ j ∈ Finset.range d, dot (colv A j) (colv B j) := by
  induction A generalizing B with
  | nil => simp [blockDot, colv]
  | cons a A ih =>
    cases B with
    | nil => simp [blockDot, colv]
    | cons b B =>
      simp only [blockDot, colv, List.map_cons, dot_cons, getC_eq]
      rw [ih B (fun x hx => hA x (by simp [hx])) (fun x hx => hB x (by simp [hx])),
        dot_eq_sum a b d (by simp [hA a]), ← Finset.sum_add_distrib]
      simp only [colv, getC_eq]

theorem zipAdd_zeros (t : List K) : zipAdd (List.replicate t.length (0 : K)) t = t := by
  induction t with
  | nil => simp [zipAdd]
  | cons a t ih => simp [List.replicate_succ, zipAdd, ih]

theorem zipAdd_replicate_zero {n : Nat} {t : List K} (h : t.length = n) : zipAdd (List.replicate n (0 : K)) t = t :=
  h ▸ zipAdd_zeros t

/-! ## one coordinate, order by order

The 1-D adjoint theorems are stated with an upstream duration gradient `gT`; here it is zero. -/

section cubic
open ST.Cubic

theorem flatPair_cubic (n : Nat) (G : Nat → Nat → K) (cs : List (C4 (Dual K))) (hl : cs.length = n) :
    flatPair G (cs.map C4.toList) n 4
      = gdotC ((List.range n).map (fun i => (⟨G i 0, G i 1, G i 2, G i 3⟩ : C4 K))) cs :=
  flatPair_zipSum (f := gdot) ⟨fun _ => rfl, fun A => by cases A <;> rfl, fun _ _ _ _ => rfl⟩
    ⟨0, 0, 0, 0⟩ ⟨0, 0, 0, 0⟩ (by simp [gdot]) (by simp [gdot]) C4.toList _ G 4
    (fun i c => by simp only [Finset.sum_range_succ, Finset.sum_range_zero, zero_add]; rfl) n cs hl

variable [LinearOrder K] [IsStrictOrderedRing K]

theorem cubic_col (hs : List (Dual K)) (Pj : List (Dual K)) (v0 vn : Dual K) (G : Nat → Nat → K)
    (hpos : ∀ h ∈ hs, 0 < h.re) (hne : hs ≠ []) (hP : Pj.length = hs.length + 1) :
    let cs := build hs Pj v0 vn
    let segsR := mkSegs (hs.map Dual.re) (Pj.map Dual.re)
    let gs := (List.range hs.length).map (fun i => (⟨G i 0, G i 1, G i 2, G i 3⟩ : C4 K))
    let r := propagate v0.re vn.re segsR (knotM v0.re vn.re segsR) gs
    flatPair G (cs.map C4.toList) hs.length 4
      = dot r.points (Pj.map Dual.du) + dot r.times (hs.map Dual.du) + r.v0 * v0.du + r.vn * vn.du := by
  intro cs segsR gs r
  have ht : r.times.length = hs.length := by
    rw [propagate_times_length _ _ _ _ (mkSegs_ne_nil _ _ (by simpa using hne) (by simp [hP])) (by simp [gs, hP])]
    simp [hP]
  have hadj := cubic_adjoint hs Pj v0 vn gs (List.replicate hs.length 0) hpos hne hP (by simp [gs]) (by simp)
  simp only [] at hadj
  rw [dot_replicate_zero, add_zero, zipAdd_replicate_zero ht] at hadj
  rw [flatPair_cubic _ _ _ (by simp [cs, hP])]
  exact hadj

end cubic

section hermite
variable [LinearOrder K] [IsStrictOrderedRing K]
open HS

/-- `HS.adjoint_pos` without an upstream duration gradient -/
theorem hermite_col {o : Deg} (hs Pj : List (Dual K)) (bL bR : V o (Dual K)) (gs : List (C o K))
    (hpos : ∀ h ∈ hs, 0 < h.re) (hne : hs ≠ []) (hP : Pj.length = hs.length + 1) (hg : gs.length = hs.length) :
    let r := propagate (buildFull o (hs.map Dual.re) (Pj.map Dual.re) (reV bL) (reV bR)) gs
    HS.gdotC gs (build o hs Pj bL bR)
      = dot r.points (Pj.map Dual.du) + dot r.times (hs.map Dual.du) + ip r.start (duV bL) + ip r.fin (duV bR) := by
  intro r
  have ht : r.times.length = hs.length :=
    (propagate_times_length (hs.map Dual.re) (Pj.map Dual.re) (reV bL) (reV bR) gs
      (by simpa using hne) (by simp [hP]) (hg.trans (List.length_map _).symm)).trans (List.length_map _)
  have hadj := adjoint_pos hs Pj bL bR gs (List.replicate hs.length 0) hne hpos hP hg (by simp)
  simp only [] at hadj
  rwa [dot_replicate_zero, add_zero, zipAdd_replicate_zero ht] at hadj

end hermite

section quintic
open ST.Quintic QuinticAdj

theorem flatPair_quintic (n : Nat) (G : Nat → Nat → K) (cs : List (C6 (Dual K))) (hl : cs.length = n) :
    flatPair G (cs.map C6.toList) n 6
      = gdotC6 ((List.range n).map (fun i => (⟨G i 0, G i 1, G i 2, G i 3, G i 4, G i 5⟩ : C6 K))) cs :=
  flatPair_zipSum (f := gdot6) ⟨fun _ => rfl, fun A => by cases A <;> rfl, fun _ _ _ _ => rfl⟩
    ⟨0, 0, 0, 0, 0, 0⟩ ⟨0, 0, 0, 0, 0, 0⟩ (by simp [gdot6]) (by simp [gdot6]) C6.toList _ G 6
    (fun i c => by simp only [Finset.sum_range_succ, Finset.sum_range_zero, zero_add]; rfl) n cs hl

variable [LinearOrder K] [IsStrictOrderedRing K]

theorem quintic_col (hs : List (Dual K)) (Pj : List (Dual K)) (bL bR : V2 (Dual K)) (G : Nat → Nat → K)
    (hpos : ∀ h ∈ hs, 0 < h.re) (hne : hs ≠ []) (hP : Pj.length = hs.length + 1) :
    let cs := build hs Pj bL bR
    let gs := (List.range hs.length).map (fun i => (⟨G i 0, G i 1, G i 2, G i 3, G i 4, G i 5⟩ : C6 K))
    let r := propagate (buildFull (hs.map Dual.re) (Pj.map Dual.re) (V2re bL) (V2re bR)) gs
    flatPair G (cs.map C6.toList) hs.length 6
      = dot r.points (Pj.map Dual.du) + dot r.times (hs.map Dual.du)
        + r.start.x * bL.x.du + r.start.y * bL.y.du + r.fin.x * bR.x.du + r.fin.y * bR.y.du := by
  intro cs gs r
  have h : gdotC6 gs cs = dot r.points (Pj.map Dual.du) + dot r.times (hs.map Dual.du)
      + ip2 r.start (V2du bL) + ip2 r.fin (V2du bR) :=
    hermite_col (o := .quintic) hs Pj bL bR gs hpos hne hP ((List.length_map _).trans List.length_range)
  rw [flatPair_quintic _ _ cs (HS.build_length .quintic hs Pj bL bR hP), h]
  simp only [ip2, V2du]; ring

end quintic

section septic
open ST.Septic SepticAdj

theorem flatPair_septic (n : Nat) (G : Nat → Nat → K) (cs : List (C8 (Dual K))) (hl : cs.length = n) :
    flatPair G (cs.map C8.toList) n 8
      = gdotC8 ((List.range n).map (fun i => (⟨G i 0, G i 1, G i 2, G i 3, G i 4, G i 5, G i 6, G i 7⟩ : C8 K))) cs :=
  flatPair_zipSum (f := gdot8) ⟨fun _ => rfl, fun A => by cases A <;> rfl, fun _ _ _ _ => rfl⟩
    ⟨0, 0, 0, 0, 0, 0, 0, 0⟩ ⟨0, 0, 0, 0, 0, 0, 0, 0⟩ (by simp [gdot8]) (by simp [gdot8]) C8.toList _ G 8
    (fun i c => by simp only [Finset.sum_range_succ, Finset.sum_range_zero, zero_add]; rfl) n cs hl

variable [LinearOrder K] [IsStrictOrderedRing K]

theorem septic_col (hs : List (Dual K)) (Pj : List (Dual K)) (bL bR : V3 (Dual K)) (G : Nat → Nat → K)
    (hpos : ∀ h ∈ hs, 0 < h.re) (hne : hs ≠ []) (hP : Pj.length = hs.length + 1) :
    let cs := build hs Pj bL bR
    let gs := (List.range hs.length).map (fun i => (⟨G i 0, G i 1, G i 2, G i 3, G i 4, G i 5, G i 6, G i 7⟩ : C8 K))
    let r := propagate (buildFull (hs.map Dual.re) (Pj.map Dual.re) (V3re bL) (V3re bR)) gs
    flatPair G (cs.map C8.toList) hs.length 8
      = dot r.points (Pj.map Dual.du) + dot r.times (hs.map Dual.du)
        + r.start.x * bL.x.du + r.start.y * bL.y.du + r.start.z * bL.z.du
        + r.fin.x * bR.x.du + r.fin.y * bR.y.du + r.fin.z * bR.z.du := by
  intro cs gs r
  have h : gdotC8 gs cs = dot r.points (Pj.map Dual.du) + dot r.times (hs.map Dual.du)
      + ip3 r.start (V3du bL) + ip3 r.fin (V3du bR) :=
    hermite_col (o := .septic) hs Pj bL bR gs hpos hne hP ((List.length_map _).trans List.length_range)
  rw [flatPair_septic _ _ cs (HS.build_length .septic hs Pj bL bR hP), h]
  simp only [ip3, V3du]; ring

end septic

/-! ## one coordinate of the D-dimensional objects -/

section col
variable [LinearOrder K] [IsStrictOrderedRing K]

theorem col_adjoint (o : Order) (hs : List (Dual K)) (P : List (Vec (Dual K))) (bc : BC (Dual K))
    (gC : List (List (Vec K))) (j : Nat) (hpos : ∀ h ∈ hs, 0 < h.re) (hne : hs ≠ []) (hP : P.length = hs.length + 1) :
    flatPair (fun i k => getC ((gC.getD i []).getD k []) j) (colOf o hs P bc j).coeffs hs.length o.coeffNum
      = colPair (propCol o (hs.map Dual.re) (P.map vre) (bcRe bc) gC j)
          ((P.map (fun r => getC r j)).map Dual.du) (hs.map Dual.du)
          (getC bc.v0 j).du (getC bc.a0 j).du (getC bc.j0 j).du (getC bc.vn j).du (getC bc.an j).du (getC bc.jn j).du := by
  have hPj : (P.map (fun r => getC r j)).length = hs.length + 1 := by simp [hP]
  -- per order: both sides on the column's 1-D data; the zero padding of `propCol`'s boundary lists drops out of `colPair`
  cases o <;>
    simp only [colOf, colCubic, colQuintic, colSeptic, propCol, colPair, bcRe, getC_vre, col_re, List.length_map,
      Order.coeffNum, List.getD_cons_zero, List.getD_cons_succ, lit_eq, Nat.cast_zero, zero_mul, add_zero]
  · exact cubic_col hs _ _ _ _ hpos hne hPj
  · exact quintic_col hs _ ⟨_, _⟩ ⟨_, _⟩ _ hpos hne hPj
  · exact septic_col hs _ ⟨_, _, _⟩ ⟨_, _, _⟩ _ hpos hne hPj

end col

def blockDotL' : List (List (Vec K)) → List (List (Vec K)) → K := blockDotL

theorem dot_zipAdd_ge (a b dh : List K) (ha : a.length = dh.length) (hb : b.length = dh.length) :
    dot (zipAdd a b) dh = dot a dh + dot b dh := dot_zipAdd a b dh (ha.trans hb.symm)

section nd
variable [LinearOrder K] [IsStrictOrderedRing K]

/-- **C05 in D dimensions**: `propagateGrad` is the exact adjoint of the D-dimensional construction map -/
theorem propagateND_adjoint (o : Order) (d : Nat) (hs : List (Dual K)) (P : List (Vec (Dual K))) (t0 : Dual K)
    (bc : BC (Dual K)) (gC : List (List (Vec K))) (gT : List K)
    (hpos : ∀ h ∈ hs, 0 < h.re) (hne : hs ≠ []) (hP : P.length = hs.length + 1) (hgT : gT.length = hs.length) :
    blockDotL gC ((buildND o d hs P t0 bc).coeffs.map (·.map vdu)) + dot gT (hs.map Dual.du)
      = ndPair (propagateND o d (hs.map Dual.re) (P.map vre) (bcRe bc) gC gT) (P.map vdu) (hs.map Dual.du) (bcDu bc) := by
  have hn : 1 ≤ (hs.map Dual.re).length := by cases hs <;> simp_all
  have hT : ∀ j, (propCol o (hs.map Dual.re) (P.map vre) (bcRe bc) gC j).2.1.length = (hs.map Dual.re).length :=
    fun j => propCol_times_length o _ _ _ gC j (by simpa using hne) (by simp [hP])
  rw [blockDotL_coeffs, propagateND_eq,
    ndPair_addTimes _ _ _ _ _ (by rw [ofCols_times_length _ _ _ (fun j _ => (hT j).ge), hgT, List.length_map]),
    ndPair_ofCols _ _ _ _ _ _ hn (by simp [hP]) (by simp) (fun j _ => (hT j).ge), add_comm]
  congr 1
  refine Finset.sum_congr rfl (fun j _ => ?_)
  rw [col_adjoint o hs P bc gC j hpos hne hP, col_du]
  simp only [bcDu, getC_vdu]

end nd

end NDAdj
