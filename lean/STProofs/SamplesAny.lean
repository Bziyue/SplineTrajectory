import STModel
import STProofs.FoldCollect
/-!
# The samples handed to the running cost, for an arbitrary scalar type — in particular IEEE doubles (C08)

Without any law of arithmetic: the quadrature of a segment hands the running cost exactly one sample per node `k = 0 … K`, in
node order, tagged with the segment index, and each sample (local time, global time, p, v, a, j, s) is a function of the segment's
data and of `k` alone — it does not depend on the accumulated cost or gradients, i.e. on what the functor returned at earlier
nodes.  At `Float`: the sample stream of a segment is bit for bit the same whatever the user functor answers.
-/
open ST
set_option linter.unusedSectionVars false

namespace AnyNum
section
variable {K : Type} [NumOrd K]

theorem quadStep_sample_indep (o : Order) (d K' : Nat) (run : RunFn K) (i : Nat) (T s0 : K) (blk : List (Vec K)) (a b : SegAcc K) (k : Nat) :
    (quadStep o d K' run i T s0 blk a k).2 = (quadStep o d K' run i T s0 blk b k).2 := rfl

theorem quadStep_sample_run_indep (o : Order) (d K' : Nat) (run run' : RunFn K) (i : Nat) (T s0 : K) (blk : List (Vec K)) (a b : SegAcc K) (k : Nat) :
    (quadStep o d K' run i T s0 blk a k).2 = (quadStep o d K' run' i T s0 blk b k).2 := rfl

theorem quadStep_sample_seg (o : Order) (d K' : Nat) (run : RunFn K) (i : Nat) (T s0 : K) (blk : List (Vec K)) (acc : SegAcc K) (k : Nat) :
    let smp := (quadStep o d K' run i T s0 blk acc k).2
    smp.seg = i ∧
    smp.p = rowTimesBlock d ((basisRows o smp.t).getD 0 []) blk ∧
    smp.v = rowTimesBlock d ((basisRows o smp.t).getD 1 []) blk ∧
    smp.a = rowTimesBlock d ((basisRows o smp.t).getD 2 []) blk ∧
    smp.j = rowTimesBlock d ((basisRows o smp.t).getD 3 []) blk ∧
    smp.s = rowTimesBlock d ((basisRows o smp.t).getD 4 []) blk := ⟨rfl, rfl, rfl, rfl, rfl, rfl⟩

/-- one sample per node, `K+1` per segment, in node order -/
theorem quadSegment_samples (o : Order) (d K' : Nat) (run : RunFn K) (i : Nat) (T s0 : K) (blk : List (Vec K)) :
    (quadSegment o d K' run i T s0 blk).2 =
      (List.range (K' + 1)).map (fun k => (quadStep o d K' run i T s0 blk ⟨lit 0, lit 0, lit 0, []⟩ k).2) :=
  (List.foldl_collect (fun acc k => quadStep o d K' run i T s0 blk acc k) _ (fun _ => True)
    (fun _ _ _ => ⟨trivial, rfl⟩) _ _ [] trivial).2

/-- the sample stream of a segment is the same for every running-cost functor -/
theorem quadSegment_samples_functor_indep (o : Order) (d K' : Nat) (run run' : RunFn K) (i : Nat) (T s0 : K) (blk : List (Vec K)) :
    (quadSegment o d K' run i T s0 blk).2 = (quadSegment o d K' run' i T s0 blk).2 := by
  rw [quadSegment_samples, quadSegment_samples]
  rfl

end
end AnyNum
