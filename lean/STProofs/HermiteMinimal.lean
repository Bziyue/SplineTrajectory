import STProofs.MinimalCore
import STProofs.HermiteUnique
import STProofs.CubicMinimal
/-!
# The quintic / septic spline is *the* minimum-jerk / minimum-snap interpolant (the variational statement of C02, every N)

For every competitor `g` with a continuous `s`-th derivative (`s = 3, 4`) through the same waypoints at the same knot times
with the same boundary derivatives `1 … s−1`:  reported energy of the built spline ≤ ∫ (g⁽ˢ⁾)².

Per segment `∫ (g⁽ˢ⁾² − p⁽ˢ⁾²) ≥ 2 [F]₀ʰ` with `F = ∑_{k<s} (−1)ᵏ p⁽ˢ⁺ᵏ⁾ (g − p)⁽ˢ⁻¹⁻ᵏ⁾` (`MinCore.seg_ineq`, which knows a piece
only as the family of its derivatives; `F_eq` feeds it the derivatives `MinCore.dv` of the coefficient list).  The `F` terms
telescope (`HS.telescope`, once for both orders) because the derivatives `1 … s−1` (Hermite closure) and `s … 2s−2`
(`HS.KKT`, which rests on the pivot theorem `detOK_of_pos`) are continuous at the knots and `g − p` vanishes there.
-/
open ST intervalIntegral

namespace QuinticMin
open ST.Quintic MinCore

noncomputable def F (c : C6 ℝ) (g0 g1 g2 : ℝ → ℝ) (a τ : ℝ) : ℝ :=
  q_ev3 c τ * (g2 (a + τ) - q_ev2 c τ) - q_ev4 c τ * (g1 (a + τ) - q_ev1 c τ)
    + 120 * c.c5 * (g0 (a + τ) - q_ev c τ)

theorem jerk_eq (c : C6 ℝ) (t : ℝ) : Quintic.jerk c t = q_ev3 c t := rfl

/-- a competitor given by its derivative chain, third derivative continuous -/
structure Comp (g0 g1 g2 g3 : ℝ → ℝ) : Prop where
  d0 : ∀ t, HasDerivAt g0 (g1 t) t
  d1 : ∀ t, HasDerivAt g1 (g2 t) t
  d2 : ∀ t, HasDerivAt g2 (g3 t) t
  c3 : Continuous g3

/-- `F` and the jerk are what `MinCore.seg_ineq` speaks of, for the coefficient list of the piece -/
theorem F_eq (c : C6 ℝ) (g0 g1 g2 g3 : ℝ → ℝ) (a τ : ℝ) :
    F c g0 g1 g2 a τ
      = bdry (fun k => dv c.toList (3 + k)) (fun k t => [g0, g1, g2, g3].getD k 0 (a + t) - dv c.toList k t) 3 τ
    ∧ Quintic.jerk c τ = dv c.toList 3 τ := by
  simp only [bdry, dv, C6.toList, List.length_cons, List.length_nil, Finset.sum_range_succ, Finset.sum_range_zero,
    Function.iterate_succ_apply', Function.iterate_zero_apply, dc, List.getD_cons_succ, List.getD_cons_zero, F,
    Quintic.jerk, q_ev, q_ev1, q_ev2, q_ev3, q_ev4]
  constructor <;> ring

/-- **one segment**: `MinCore.seg_ineq` at `s = 3` for the coefficient list of a quintic piece; nothing is asked of the competitor
at the ends of the segment -/
theorem seg_ineq (c : C6 ℝ) (g0 g1 g2 g3 : ℝ → ℝ) (hg : Comp g0 g1 g2 g3) (a h : ℝ) (hh : 0 ≤ h) :
    2 * (F c g0 g1 g2 a h - F c g0 g1 g2 a 0)
      ≤ (∫ τ in (0:ℝ)..h, (g3 (a + τ)) ^ 2) - ∫ τ in (0:ℝ)..h, (Quintic.jerk c τ) ^ 2 := by
  rw [funext fun τ => (F_eq c g0 g1 g2 g3 a τ).1, funext fun τ => (F_eq c g0 g1 g2 g3 a τ).2]
  exact MinCore.seg_ineq 3 (dv c.toList) _ (hasDerivAt_dv _)
    (fun k hk => by interval_cases k <;> [exact hg.d0; exact hg.d1; exact hg.d2]) hg.c3 (dv_of_le _ (le_refl 6)) a h hh

end QuinticMin

namespace SepticMin
open ST.Septic MinCore

noncomputable def F (c : C8 ℝ) (g0 g1 g2 g3 : ℝ → ℝ) (a τ : ℝ) : ℝ :=
  s_ev4 c τ * (g3 (a + τ) - s_ev3 c τ) - s_ev5 c τ * (g2 (a + τ) - s_ev2 c τ)
    + s_ev6 c τ * (g1 (a + τ) - s_ev1 c τ) - 5040 * c.c7 * (g0 (a + τ) - s_ev c τ)

theorem snap_eq (c : C8 ℝ) (t : ℝ) : Septic.snap c t = s_ev4 c t := rfl

/-- a competitor given by its derivative chain, fourth derivative continuous -/
structure Comp (g0 g1 g2 g3 g4 : ℝ → ℝ) : Prop where
  d0 : ∀ t, HasDerivAt g0 (g1 t) t
  d1 : ∀ t, HasDerivAt g1 (g2 t) t
  d2 : ∀ t, HasDerivAt g2 (g3 t) t
  d3 : ∀ t, HasDerivAt g3 (g4 t) t
  c4 : Continuous g4

theorem F_eq (c : C8 ℝ) (g0 g1 g2 g3 g4 : ℝ → ℝ) (a τ : ℝ) :
    F c g0 g1 g2 g3 a τ
      = bdry (fun k => dv c.toList (4 + k)) (fun k t => [g0, g1, g2, g3, g4].getD k 0 (a + t) - dv c.toList k t) 4 τ
    ∧ Septic.snap c τ = dv c.toList 4 τ := by
  simp only [bdry, dv, C8.toList, List.length_cons, List.length_nil, Finset.sum_range_succ, Finset.sum_range_zero,
    Function.iterate_succ_apply', Function.iterate_zero_apply, dc, List.getD_cons_succ, List.getD_cons_zero, F,
    Septic.snap, s_ev, s_ev1, s_ev2, s_ev3, s_ev4, s_ev5, s_ev6]
  constructor <;> ring

/-- **one segment**: `MinCore.seg_ineq` at `s = 4` for the coefficient list of a septic piece -/
theorem seg_ineq (c : C8 ℝ) (g0 g1 g2 g3 g4 : ℝ → ℝ) (hg : Comp g0 g1 g2 g3 g4) (a h : ℝ) (hh : 0 ≤ h) :
    2 * (F c g0 g1 g2 g3 a h - F c g0 g1 g2 g3 a 0)
      ≤ (∫ τ in (0:ℝ)..h, (g4 (a + τ)) ^ 2) - ∫ τ in (0:ℝ)..h, (Septic.snap c τ) ^ 2 := by
  rw [funext fun τ => (F_eq c g0 g1 g2 g3 g4 a τ).1, funext fun τ => (F_eq c g0 g1 g2 g3 g4 a τ).2]
  exact MinCore.seg_ineq 4 (dv c.toList) _ (hasDerivAt_dv _)
    (fun k hk => by interval_cases k <;> [exact hg.d0; exact hg.d1; exact hg.d2; exact hg.d3]) hg.c4
    (dv_of_le _ (le_refl 8)) a h hh

end SepticMin

namespace HS
variable {o : Deg}

/-- derivatives `s … 2s−2` of the piece (`hi`) against the differences `(g − p)′ … (g − p)⁽ˢ⁻¹⁾`, with the signs of `F` -/
def pair : V o ℝ → V o ℝ → ℝ :=
  match o with
  | .quintic => fun (u d : V2 ℝ) => u.y * d.y - u.x * d.x
  | .septic => fun (u d : V3 ℝ) => u.x * d.z - u.y * d.y + u.z * d.x
/-- `(−1)ˢ⁻¹ p⁽²ˢ⁻¹⁾`, a constant -/
def top : C o ℝ → ℝ := match o with | .quintic => fun c => 120 * c.c5 | .septic => fun c => -(5040 * c.c7)

theorem pair_zero (u : V o ℝ) : pair u 0 = 0 := by
  cases o
  · exact (by ring : (u : V2 ℝ).y * 0 - (u : V2 ℝ).x * 0 = 0)
  · exact (by ring : (u : V3 ℝ).x * 0 - (u : V3 ℝ).y * 0 + (u : V3 ℝ).z * 0 = 0)

/-- `QuinticMin.F` / `SepticMin.F` for the competitor `(g0, G)`: value and derivatives `1 … s−1` -/
noncomputable def F (c : C o ℝ) (g0 : ℝ → ℝ) (G : ℝ → V o ℝ) (a τ : ℝ) : ℝ :=
  pair (hi c τ) (G (a + τ) - lo c τ) + top c * (g0 (a + τ) - ev c τ)

theorem F_of_ends (c : C o ℝ) (g0 : ℝ → ℝ) (G : ℝ → V o ℝ) (a τ : ℝ) (h0 : ev c τ = g0 (a + τ)) (h1 : lo c τ = G (a + τ)) :
    F c g0 G a τ = 0 := by simp [F, h0, h1, pair_zero]

theorem F_knot (c c' : C o ℝ) (g0 : ℝ → ℝ) (G : ℝ → V o ℝ) (a h : ℝ) (hhi : hi c h = hi c' 0) (hlo : lo c h = lo c' 0)
    (e : ev c h = g0 (a + h)) (e' : ev c' 0 = g0 (a + h)) : F c g0 G a h = F c' g0 G (a + h) 0 := by
  simp only [F, hhi, hlo, e, e', add_zero, sub_self, mul_zero]

/-! a competitor `(g0, G, gs)` — value, derivatives `1 … s−1`, `s`-th derivative — for which the inequality of one segment holds -/
variable (g0 gs : ℝ → ℝ) (G : ℝ → V o ℝ)
  (hseg : ∀ (c : C o ℝ) (a h : ℝ), 0 ≤ h →
    2 * (F c g0 G a h - F c g0 G a 0) ≤ (∫ τ in (0:ℝ)..h, gs (a + τ) ^ 2) - energySeg h c)
include hseg

/-- telescoping over the knots: the boundary terms of consecutive segments cancel (`hi`: optimality conditions; `lo`, `ev`:
Hermite closure and interpolation), the last one vanishes (boundary state), the first one is left -/
theorem telescope (h : ℝ) (hs : List ℝ) (p0 p1 : ℝ) (Ps : List ℝ) (k0 k1 : V o ℝ) (ks : List (V o ℝ)) (a : ℝ)
    (hpos : ∀ x ∈ h :: hs, 0 < x) (hP : Ps.length = hs.length) (hk : ks.length = hs.length)
    (hjf : JumpFree (h :: hs) (closure (mkSegs o (h :: hs) (p0 :: p1 :: Ps)) (k0 :: k1 :: ks)))
    (hthru : CubicMin.Thru g0 a (h :: hs) (p0 :: p1 :: Ps))
    (hend : (k1 :: ks).getLast? = some (G (a + (h :: hs).sum))) :
    -(2 * F (closeSeg (Seg.mk (mkTP o h) p0 (p1 - p0)) k0 k1) g0 G a 0)
      ≤ CubicMin.energyG gs a (h :: hs)
        - energy (h :: hs) (closure (mkSegs o (h :: hs) (p0 :: p1 :: Ps)) (k0 :: k1 :: ks)) := by
  induction hs generalizing h p0 p1 Ps k0 k1 ks a with
  | nil =>
    match Ps, ks, hP, hk with
    | [], [], _, _ =>
      have hh := hpos h (by simp)
      obtain ⟨-, -, e0, e1⟩ := closeSeg_ends h p0 p1 k0 k1 hh.ne'
      have := hseg (closeSeg (Seg.mk (mkTP o h) p0 (p1 - p0)) k0 k1) a h hh.le
      rw [F_of_ends _ g0 G a h (by rw [e0]; exact (CubicMin.thru_head g0 (a + h) _ p1 [] hthru.2).symm)
        (by simpa [e1] using hend)] at this
      simp only [mkSegs_cons, mkSegs_single, closure_cons, closure_nil, energy_cons, energy_nil, lit_eq, Nat.cast_zero,
        CubicMin.energyG]
      linarith
  | cons h' hs ih =>
    match Ps, ks, hP, hk with
    | p2 :: Ps, k2 :: ks, hP, hk =>
      have hh := hpos h (by simp)
      obtain ⟨-, -, e0, e1⟩ := closeSeg_ends h p0 p1 k0 k1 hh.ne'
      obtain ⟨f0, f1, -, -⟩ := closeSeg_ends h' p1 p2 k1 k2 (hpos h' (by simp)).ne'
      have t1 := CubicMin.thru_head g0 (a + h) _ p1 _ hthru.2
      rw [mkSegs_cons, mkSegs_cons, closure_cons, closure_cons, jumpFree_cons, ← closure_cons, ← mkSegs_cons] at hjf
      have ih' := ih h' p1 p2 Ps k1 k2 ks (a + h) (fun x hx => hpos x (List.mem_cons_of_mem _ hx)) (by simpa using hP)
        (by simpa using hk) hjf.2 hthru.2
        (by rw [← List.getLast?_cons_cons (a := k1), hend, List.sum_cons, List.sum_cons, add_assoc])
      have := hseg (closeSeg (Seg.mk (mkTP o h) p0 (p1 - p0)) k0 k1) a h hh.le
      rw [F_knot _ _ g0 G a h hjf.1 (e1.trans f1.symm) (e0.trans t1.symm) (f0.trans t1.symm)] at this
      rw [mkSegs_cons, closure_cons, energy_cons, CubicMin.energyG]
      linarith

/-- **any Hermite closure with continuous derivatives `s … 2s−2` minimises** among the competitors through the same waypoints
with the same states at both ends -/
theorem closure_minimal (hc : Continuous gs) (hs Ps : List ℝ) (ks : List (V o ℝ)) (hpos : ∀ h ∈ hs, 0 < h) (hne0 : hs ≠ [])
    (hP : Ps.length = hs.length + 1) (hk : ks.length = hs.length + 1) (hjf : JumpFree hs (closure (mkSegs o hs Ps) ks)) (t0 : ℝ)
    (hthru : CubicMin.Thru g0 t0 hs Ps) (h0 : ks.head? = some (G t0)) (hn : ks.getLast? = some (G (t0 + hs.sum))) :
    energy hs (closure (mkSegs o hs Ps) ks) ≤ ∫ t in t0..(t0 + hs.sum), gs t ^ 2 := by
  match hs, hne0, Ps, ks, hP, hk with
  | h :: hs, _, p0 :: p1 :: Ps, k0 :: k1 :: ks, hP, hk =>
    have := telescope g0 gs G hseg h hs p0 p1 Ps k0 k1 ks t0 hpos (by simpa using hP) (by simpa using hk) hjf hthru
      (by rwa [List.getLast?_cons_cons] at hn)
    obtain ⟨e0, e1, -, -⟩ := closeSeg_ends h p0 p1 k0 k1 (hpos h (by simp)).ne'
    rw [F_of_ends _ g0 G t0 0 (by rw [e0, add_zero]; exact hthru.1.symm) (by simpa [e1] using h0),
      CubicMin.energyG_eq_integral gs hc] at this
    linarith

/-- **C02, minimality**, both orders in one statement, from the one-segment inequality `hseg` each order supplies -/
theorem minimal (hc : Continuous gs) (hs Ps : List ℝ) (bL bR : V o ℝ) (hpos : ∀ h ∈ hs, 0 < h) (hne0 : hs ≠ [])
    (hP : Ps.length = hs.length + 1) (t0 : ℝ) (hthru : CubicMin.Thru g0 t0 hs Ps) (h0 : G t0 = bL) (hn : G (t0 + hs.sum) = bR) :
    energy hs (build o hs Ps bL bR) ≤ ∫ t in t0..(t0 + hs.sum), gs t ^ 2 := by
  have hjf := KKT hs Ps bL bR hpos hP
  rw [build_eq] at hjf ⊢
  have h1 : 1 ≤ hs.length := List.length_pos_iff.2 hne0
  exact closure_minimal g0 gs G hseg hc hs Ps _ hpos hne0 hP (by simp [hP]; omega) hjf t0 hthru (by simp [h0])
    (by rw [List.getLast?_concat, hn])

end HS

namespace QuinticMin
open ST.Quintic

/-- **C02 (quintic): the built spline minimises ∫(g''')²** — the energy the code reports is at most that of every `g` with a
continuous third derivative through the same waypoints at the same knot times (`Thru`) with the same velocity and acceleration
at both ends — every N ≥ 1, positive durations -/
theorem quintic_minimal (hs Ps : List ℝ) (bL bR : V2 ℝ) (hpos : ∀ h ∈ hs, 0 < h) (hne0 : hs ≠ [])
    (hP : Ps.length = hs.length + 1)
    (g0 g1 g2 g3 : ℝ → ℝ) (hg : Comp g0 g1 g2 g3) (t0 : ℝ) (hthru : CubicMin.Thru g0 t0 hs Ps)
    (hv0 : g1 t0 = bL.x) (ha0 : g2 t0 = bL.y) (hvn : g1 (t0 + hs.sum) = bR.x) (han : g2 (t0 + hs.sum) = bR.y) :
    Quintic.energy hs (build hs Ps bL bR) ≤ ∫ t in t0..(t0 + hs.sum), (g3 t) ^ 2 := by
  refine HS.minimal (o := .quintic) g0 g3 (fun t => (⟨g1 t, g2 t⟩ : V2 ℝ)) (fun c a h hh => ?_) hg.c3 hs Ps bL bR hpos hne0 hP t0
    hthru (V2.ext hv0 ha0) (V2.ext hvn han)
  rw [show HS.energySeg h c = _ from quintic_energy_integral c h]
  exact seg_ineq c g0 g1 g2 g3 hg a h hh

end QuinticMin

namespace SepticMin
open ST.Septic

/-- **C02 (septic): the built spline minimises ∫(g'''')²** — the energy the code reports is at most that of every `g` with a
continuous fourth derivative through the same waypoints at the same knot times with the same velocity, acceleration and jerk at
both ends — every N ≥ 1, positive durations -/
theorem septic_minimal (hs Ps : List ℝ) (bL bR : V3 ℝ) (hpos : ∀ h ∈ hs, 0 < h) (hne0 : hs ≠ [])
    (hP : Ps.length = hs.length + 1)
    (g0 g1 g2 g3 g4 : ℝ → ℝ) (hg : Comp g0 g1 g2 g3 g4) (t0 : ℝ) (hthru : CubicMin.Thru g0 t0 hs Ps)
    (hv0 : g1 t0 = bL.x) (ha0 : g2 t0 = bL.y) (hj0 : g3 t0 = bL.z)
    (hvn : g1 (t0 + hs.sum) = bR.x) (han : g2 (t0 + hs.sum) = bR.y) (hjn : g3 (t0 + hs.sum) = bR.z) :
    Septic.energy hs (build hs Ps bL bR) ≤ ∫ t in t0..(t0 + hs.sum), (g4 t) ^ 2 := by
  refine HS.minimal (o := .septic) g0 g4 (fun t => (⟨g1 t, g2 t, g3 t⟩ : V3 ℝ)) (fun c a h hh => ?_) hg.c4 hs Ps bL bR hpos hne0
    hP t0 hthru (V3.ext hv0 ha0 hj0) (V3.ext hvn han hjn)
  have hF : ∀ τ, HS.F (o := .septic) c g0 (fun t => (⟨g1 t, g2 t, g3 t⟩ : V3 ℝ)) a τ = F c g0 g1 g2 g3 a τ :=
    fun τ => by show _ + -(5040 * c.c7) * _ = _; rw [neg_mul, ← sub_eq_add_neg]; rfl
  rw [show HS.energySeg h c = _ from septic_energy_integral c h, hF, hF]
  exact seg_ineq c g0 g1 g2 g3 g4 hg a h hh

end SepticMin
