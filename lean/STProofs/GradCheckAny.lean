import STModel
import STProofs.FoldCollect
/-!
# The gradient self-check for an arbitrary scalar type — in particular IEEE doubles (C19)

No law of arithmetic is used (`GradCheck.lean` takes the instance at an ordered field): for every scalar type carrying the
model's operations the loop of `checkGradients` leaves its working copy of the decision vector *exactly* as it found it after
every component (the code saves and restores the entry, it does not add and subtract the step), reports the central differences
of the optimizer's own cost, the analytic gradient of an evaluation at the unperturbed vector, and leaves the spline of that
vector behind.  At `Float` this says: bit for bit.
-/
open ST

theorem setAt_getD_self {α : Type} (x : List α) (i : Nat) (d : α) : setAt x i (x.getD i d) = x := by
  unfold setAt
  by_cases h : i < x.length
  · simp only [List.getD_eq_getElem?_getD, List.getElem?_eq_getElem h, Option.getD_some]
    exact List.set_getElem_self h
  · exact List.set_eq_of_length_le (by omega)

namespace AnyNum
section
variable {K : Type} [NumOrd K]

/-- central difference of the optimizer's own cost in component `i` -/
def centralDiff (c : Config K) (x : List K) (costs : Costs K) (eps : K) (i : Nat) : K :=
  ((evaluate c (setAt x i (x.getD i (lit 0) + eps)) costs).cost
    - (evaluate c (setAt x i (x.getD i (lit 0) - eps)) costs).cost) / (lit 2 * eps)

/-- one iteration of the loop (the local `step` of the model's `checkGradients`): perturb up, perturb down, restore, record
the quotient -/
def fdStep (c : Config K) (costs : Costs K) (eps : K) (st : List K × List K) (i : Nat) : List K × List K :=
  let xt := st.1
  let old := xt.getD i (lit 0)
  let cp := (evaluate c (setAt xt i (old + eps)) costs).cost
  let cm := (evaluate c (setAt xt i (old - eps)) costs).cost
  (setAt xt i old, st.2 ++ [(cp - cm) / (lit 2 * eps)])

/-- the loop keeps the working copy equal to `x` at every iteration boundary and appends the central differences -/
theorem fold_invariant (c : Config K) (x : List K) (costs : Costs K) (eps : K) (l : List Nat) (acc : List K) :
    l.foldl (fdStep c costs eps) (x, acc) = (x, acc ++ l.map (centralDiff c x costs eps)) := by
  -- `fdStep`, with its `let`s unfolded, is the loop of `foldl_collect` for this step
  have := List.foldl_collect (fun (xt : List K) i => (setAt xt i (xt.getD i (lit 0)), centralDiff c xt costs eps i))
    (centralDiff c x costs eps) (· = x) (fun s i hs => by subst hs; exact ⟨setAt_getD_self _ _ _, rfl⟩) l x acc rfl
  exact Prod.ext this.1 this.2

/-- **C19**: what the self-check returns — the evaluation at `x` itself, run last (so the workspace is left on `x`), its
gradient, the central differences of the optimizer's own cost, and `valid` = squared error below `tol²` -/
theorem checkGradients_spec (c : Config K) (x : List K) (costs : Costs K) (eps tol : K) :
    let r := checkGradients c x costs eps tol
    r.final = evaluate c x costs ∧
    r.analytical = (evaluate c x costs).grad ∧
    r.numerical = (List.range x.length).map (centralDiff c x costs eps) ∧
    r.valid = NumOrd.lt r.errNormSq (tol * tol) ∧
    r.errNormSq = dot (List.zipWith (fun a b => a - b) (evaluate c x costs).grad r.numerical)
                      (List.zipWith (fun a b => a - b) (evaluate c x costs).grad r.numerical) := by
  intro r
  -- every field is what the definition writes; only `numerical` needs the loop
  refine ⟨rfl, rfl, ?_, rfl, rfl⟩
  show ((List.range x.length).foldl (fdStep c costs eps) (x, [])).2 = _
  rw [fold_invariant]; rfl

/-- the workspace after the check holds the spline of the checked decision vector -/
theorem checkGradients_restores (c : Config K) (x : List K) (costs : Costs K) (eps tol : K) :
    (checkGradients c x costs eps tol).final.spline = (evaluate c x costs).spline :=
  congrArg EvalOut.spline (checkGradients_spec c x costs eps tol).1

end

/-- the IEEE-double instance -/
theorem checkGradients_restores_float (c : Config Float) (x : List Float) (costs : Costs Float) (eps tol : Float) :
    (checkGradients c x costs eps tol).final = evaluate c x costs ∧
    (checkGradients c x costs eps tol).analytical = (evaluate c x costs).grad :=
  ⟨(checkGradients_spec c x costs eps tol).1, (checkGradients_spec c x costs eps tol).2.1⟩

end AnyNum
