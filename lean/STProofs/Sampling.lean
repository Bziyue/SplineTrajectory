import STProofs.Alg
import Mathlib.Tactic.Linarith
/-!
# `generateTimeSequence` (C20), in exact arithmetic

For `start ≤ end` and `dt > 0` the sequence is `start, start+dt, …, start+N·dt` with `N = ⌊(end-start)/dt⌋`,
followed by `end` exactly when the last regular sample falls short of `end` by more than 1e-6.  The model writes the
threshold as `lit 1 / lit 1000000`: over a field that is 10⁻⁶ exactly, at `Float` the correctly rounded quotient is the double
literal `1e-6` of the code.
-/
open ST

section
variable {K : Type} [Field K] [LinearOrder K] [IsStrictOrderedRing K] [FloorRing K]

/-- `num_steps` of the code (not negative when `start ≤ end`, `dt > 0`) -/
noncomputable def nSteps (s e dt : K) : ℕ := (Int.floor ((e - s) / dt)).toNat

/-- the samples of the loop `for (i = 0; i <= num_steps; ++i)` -/
def regular (s dt : K) (N : ℕ) : List K := (List.range (N + 1)).map (fun (i : ℕ) => s + (i : K) * dt)

omit [IsStrictOrderedRing K] in
theorem nSteps_eq (s e dt : K) : nSteps s e dt = ⌊(e - s) / dt⌋₊ := Int.floor_toNat _

omit [LinearOrder K] [IsStrictOrderedRing K] [FloorRing K] in
theorem regular_getLast? (s dt : K) (N : ℕ) : (regular s dt N).getLast? = some (s + (N : K) * dt) := by
  rw [regular, List.range_succ, List.map_append, List.map_singleton, List.getLast?_concat]

/-- **shape**: regular samples, then the end iff the last one is more than 1e-6 away from it -/
theorem timeSequence_shape (s e dt : K) (hse : s ≤ e) (hdt : 0 < dt) :
    PPoly.timeSequence s e dt =
      regular s dt (nSteps s e dt) ++
        (if (1 : K) / 1000000 < |s + (nSteps s e dt : K) * dt - e| then [e] else []) := by
  have hfl : 0 ≤ Int.floor ((e - s) / dt) := Int.floor_nonneg.mpr (div_nonneg (sub_nonneg.mpr hse) hdt.le)
  unfold PPoly.timeSequence
  simp only [NumOrd.floor, lit_eq]
  have hn : (Int.floor ((e - s) / dt) + 1).toNat = nSteps s e dt + 1 := Int.toNat_add hfl zero_le_one
  rw [hn]
  have hlast := regular_getLast? s dt (nSteps s e dt)
  rw [regular] at hlast
  simp only [hlast, regular]
  have habs : ∀ x : K, (if x < 0 then -x else x) = |x| := fun x => by
    split_ifs with h
    exacts [(abs_of_neg h).symm, (abs_of_nonneg (not_lt.mp h)).symm]
  simp only [NumOrd.lt, Nat.cast_zero, decide_eq_true_eq, habs]
  rw [Nat.cast_one, Nat.cast_ofNat, apply_ite (List.map _ _ ++ ·), List.append_nil]

/-- no regular sample lies beyond the end (a fact of exact arithmetic) -/
theorem regular_le_end (s e dt : K) (hse : s ≤ e) (hdt : 0 < dt) (i : ℕ) (hi : i ≤ nSteps s e dt) :
    s + (i : K) * dt ≤ e := by
  have h1 : (i : K) ≤ (e - s) / dt :=
    (Nat.cast_le.mpr hi).trans (nSteps_eq s e dt ▸ Nat.floor_le (div_nonneg (sub_nonneg.mpr hse) hdt.le))
  exact le_sub_iff_add_le'.mp ((le_div_iff₀ hdt).mp h1)

/-- the last regular sample is less than one step short of the end -/
theorem last_regular_gap (s e dt : K) (hse : s ≤ e) (hdt : 0 < dt) :
    e - (s + (nSteps s e dt : K) * dt) < dt := by
  have h1 : (e - s) / dt < (nSteps s e dt : K) + 1 := nSteps_eq s e dt ▸ Nat.lt_floor_add_one _
  linarith [(div_lt_iff₀ hdt).mp h1]

/-- the shape with the appended-end test free of `|·|`: the last regular sample never exceeds the end -/
theorem timeSequence_shape' (s e dt : K) (hse : s ≤ e) (hdt : 0 < dt) :
    PPoly.timeSequence s e dt =
      regular s dt (nSteps s e dt) ++
        (if (1 : K) / 1000000 < e - (s + (nSteps s e dt : K) * dt) then [e] else []) := by
  rw [timeSequence_shape s e dt hse hdt, abs_sub_comm,
    abs_of_nonneg (sub_nonneg.mpr (regular_le_end s e dt hse hdt _ le_rfl))]

/-- the sequence starts exactly at the requested start -/
theorem timeSequence_head (s e dt : K) (hse : s ≤ e) (hdt : 0 < dt) :
    (PPoly.timeSequence s e dt).head? = some s := by
  rw [timeSequence_shape s e dt hse hdt, regular, List.range_succ_eq_map, List.map_cons, List.cons_append, List.head?_cons,
    Nat.cast_zero, zero_mul, add_zero]

/-- no sample lies beyond the end -/
theorem timeSequence_le_end (s e dt : K) (hse : s ≤ e) (hdt : 0 < dt) :
    ∀ x ∈ PPoly.timeSequence s e dt, x ≤ e := by
  rw [timeSequence_shape s e dt hse hdt]
  intro x hx
  rcases List.mem_append.mp hx with h | h
  · simp only [regular, List.mem_map, List.mem_range] at h
    obtain ⟨i, hi, rfl⟩ := h
    exact regular_le_end s e dt hse hdt i (by omega)
  · split_ifs at h
    · exact (List.mem_singleton.mp h).le
    · exact absurd h List.not_mem_nil

/-- the sequence ends within 1e-6 of the requested end -/
theorem timeSequence_last (s e dt : K) (hse : s ≤ e) (hdt : 0 < dt) :
    ∃ l, (PPoly.timeSequence s e dt).getLast? = some l ∧ |l - e| ≤ (1 : K) / 1000000 := by
  rw [timeSequence_shape s e dt hse hdt]
  by_cases h : (1 : K) / 1000000 < |s + (nSteps s e dt : K) * dt - e|
  · refine ⟨e, ?_, ?_⟩
    · rw [if_pos h]; simp
    · rw [sub_self, abs_zero]; positivity
  · refine ⟨s + (nSteps s e dt : K) * dt, ?_, not_lt.mp h⟩
    rw [if_neg h, List.append_nil, regular_getLast?]

/-- regular samples advance by exactly the requested step -/
theorem regular_step (s dt : K) (N i : ℕ) (hi : i < N) :
    (regular s dt N).getD (i + 1) 0 - (regular s dt N).getD i 0 = dt := by
  simp only [regular]
  rw [List.getD_eq_getElem?_getD, List.getD_eq_getElem?_getD]
  simp only [List.getElem?_map, List.getElem?_range (show i + 1 < N + 1 by omega),
    List.getElem?_range (show i < N + 1 by omega), Option.map_some, Option.getD_some]
  push_cast; ring

/-- the end is appended exactly when the last regular sample falls short of it by more than 1e-6 -/
theorem appended_end_iff (s e dt : K) (hse : s ≤ e) (hdt : 0 < dt) :
    (PPoly.timeSequence s e dt).length = nSteps s e dt + 2 ↔ (1 : K) / 1000000 < e - (s + (nSteps s e dt : K) * dt) := by
  rw [timeSequence_shape' s e dt hse hdt, List.length_append, regular, List.length_map, List.length_range]
  split_ifs with h
  · exact iff_of_true rfl h
  · exact iff_of_false (Nat.succ_ne_self _).symm h

/-- the whole sequence is strictly increasing -/
theorem timeSequence_strictMono (s e dt : K) (hse : s ≤ e) (hdt : 0 < dt) :
    (PPoly.timeSequence s e dt).Pairwise (· < ·) := by
  rw [timeSequence_shape' s e dt hse hdt]
  have hreg : (regular s dt (nSteps s e dt)).Pairwise (· < ·) := by
    rw [regular, List.pairwise_map]
    exact List.pairwise_lt_range.imp fun hab => add_lt_add_right (mul_lt_mul_of_pos_right (Nat.cast_lt.mpr hab) hdt) s
  split_ifs with h
  · refine List.pairwise_append.mpr ⟨hreg, List.pairwise_singleton _ _, fun a ha b hb => ?_⟩
    obtain ⟨i, hi, rfl⟩ := List.mem_map.mp ha
    rw [List.mem_singleton.mp hb]
    have h0 : (0 : K) < 1 / 1000000 := by positivity
    exact lt_of_le_of_lt (add_le_add_right (mul_le_mul_of_nonneg_right
      (Nat.cast_le.mpr (Nat.le_of_lt_succ (List.mem_range.mp hi))) hdt.le) s) (sub_pos.mp (h0.trans h))
  · rwa [List.append_nil]

end
