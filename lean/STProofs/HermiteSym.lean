import STProofs.HermiteUnique
/-!
# C14 (quintic / septic): translation, amplitude scaling and time scaling — every N, via uniqueness

If a transformation of the data `(durations, waypoints, boundary states)` maps, piece by piece, Hermite closures to
transformed Hermite closures and preserves continuity of the derivatives `s … 2s−2`, then — because the optimality system
has exactly one solution (`HS.unique`) — the spline built from the transformed data is the transformed spline
(`HS.build_transform`).  Continuity of the high derivatives is a chain condition on the list of (duration, piece) pairs
(`HS.jumpFree_iff_chain`), so it is carried along maps, and along reversal, by the library's lemmas on chains.

* `build_affine`  : waypoints `λ·P + a`, boundary states `λ·b`  ⇒ coefficients `λ·c + (a,0,…)`; energy of every piece × λ².
* `build_timescale` : durations `μ·T` (μ > 0), k-th boundary derivative `/μᵏ` ⇒ coefficients `c_k/μᵏ` (the same curve run at
  speed 1/μ); energy of every piece × μ^-(2s−1).  The per-piece laws (`tsC`, `closeSeg_timescale`, `q_ev_tsC` / `s_ev_tsC`)
  are in `STProofs.Hermite`, which reduces the one-segment identities to the segment of duration `1` by them.
-/
open ST

namespace HS
variable {o : Deg} {K : Type} [Field K]

theorem closure_map (φ ψ : K → K) (gk : V o K → V o K) (f : C o K → C o K)
    (hseg : ∀ h p0 p1 k0 k1, h ≠ 0 →
      closeSeg (Seg.mk (mkTP o (φ h)) (ψ p0) (ψ p1 - ψ p0)) (gk k0) (gk k1)
        = f (closeSeg (Seg.mk (mkTP o h) p0 (p1 - p0)) k0 k1))
    (hs Ps : List K) (ks : List (V o K)) (hne : ∀ h ∈ hs, h ≠ 0) (hP : Ps.length = hs.length + 1)
    (hk : ks.length = hs.length + 1) :
    closure (mkSegs o (hs.map φ) (Ps.map ψ)) (ks.map gk) = (closure (mkSegs o hs Ps) ks).map f := by
  induction hs generalizing Ps ks with
  | nil => simp [mkSegs_nil, closure_nil]
  | cons h hs ih =>
    match Ps, ks, hP, hk with
    | p0 :: p1 :: Ps, k0 :: k1 :: ks, hP, hk =>
      simp only [List.map_cons, mkSegs_cons, closure_cons, hseg h p0 p1 k0 k1 (hne h (by simp)),
        ← ih (p1 :: Ps) (k1 :: ks) (fun x hx => hne x (by simp [hx])) (by simpa using hP) (by simpa using hk)]

theorem jumpFree_map (φ : K → K) (f : C o K → C o K) (hj : ∀ h c c', hi c h = hi c' 0 → hi (f c) (φ h) = hi (f c') 0)
    (hs : List K) (cs : List (C o K)) (hl : cs.length = hs.length) (h : JumpFree hs cs) :
    JumpFree (hs.map φ) (cs.map f) := by
  rw [jumpFree_iff_chain _ _ (by simp [hl]), List.zip_map, List.isChain_map]
  exact ((jumpFree_iff_chain _ _ hl).mp h).imp fun a b => hj a.1 a.2 b.2

variable [LinearOrder K] [IsStrictOrderedRing K]

/-- the transfer principle for both orders in one statement: the image of the built spline is a closure (`closure_map`) with
continuous high derivatives (`KKT`, `jumpFree_map`), hence the spline built from the image data (`unique`) -/
theorem build_transform (φ ψ : K → K) (gk : V o K → V o K) (f : C o K → C o K) (hφ : ∀ h, 0 < h → 0 < φ h)
    (hseg : ∀ h p0 p1 k0 k1, h ≠ 0 →
      closeSeg (Seg.mk (mkTP o (φ h)) (ψ p0) (ψ p1 - ψ p0)) (gk k0) (gk k1)
        = f (closeSeg (Seg.mk (mkTP o h) p0 (p1 - p0)) k0 k1))
    (hj : ∀ h c c', hi c h = hi c' 0 → hi (f c) (φ h) = hi (f c') 0)
    (hs Ps : List K) (bL bR : V o K) (hpos : ∀ h ∈ hs, 0 < h) (hne0 : hs ≠ []) (hP : Ps.length = hs.length + 1) :
    build o (hs.map φ) (Ps.map ψ) (gk bL) (gk bR) = (build o hs Ps bL bR).map f := by
  obtain ⟨N, hN⟩ : ∃ N, hs.length = N + 1 := Nat.exists_eq_succ_of_ne_zero (by simpa using hne0)
  have hcm := closure_map φ ψ gk f hseg hs Ps (bL :: bthomas (rows bL bR (mkSegs o hs Ps)) ++ [bR])
    (fun h hh => (hpos h hh).ne') hP (by simp [hP, hN])
  rw [← build_eq, List.map_append, List.map_cons, List.map_singleton] at hcm
  exact unique _ _ _ _ _ _ (List.forall_mem_map.mpr fun h hh => hφ h (hpos h hh)) (by simp [hP]) (by simp [hP, hN]) hcm
    (jumpFree_map φ f hj hs _ (build_length o hs Ps bL bR hP) (KKT hs Ps bL bR hpos hP))

end HS

namespace QuinticSym
open ST.Quintic QuinticAdj QuinticK
variable {K : Type} [Field K]

/-- the energy of the rescaled piece is that of the piece over the rescaled duration: no inverse has to be cancelled -/
theorem energySeg_tsC (mu T : K) (c : C6 K) : energySeg T (tsC mu c) = energySeg (T / mu) c / mu ^ 5 := by
  simp only [energySeg, tsC, lit_eq]; ring

variable [LinearOrder K] [IsStrictOrderedRing K]

/-- **transfer principle** (C14): a map of the data that carries Hermite closures to Hermite closures (`hseg`) and preserves
agreement of jerk and of snap across a knot (`h3`, `h4`) carries the built spline to the built spline — every N ≥ 1, positive
durations mapped to positive durations -/
theorem build_transform (φ ψ : K → K) (gk : V2 K → V2 K) (f : C6 K → C6 K)
    (hφ : ∀ h, 0 < h → 0 < φ h)
    (hseg : ∀ h p0 p1 k0 k1, h ≠ 0 →
      closeSeg (⟨mkTP (φ h), ψ p0, ψ p1 - ψ p0⟩ : Seg K) (gk k0) (gk k1)
        = f (closeSeg (⟨mkTP h, p0, p1 - p0⟩ : Seg K) k0 k1))
    (h3 : ∀ h c c', q_ev3 c h = q_ev3 c' 0 → q_ev3 (f c) (φ h) = q_ev3 (f c') 0)
    (h4 : ∀ h c c', q_ev4 c h = q_ev4 c' 0 → q_ev4 (f c) (φ h) = q_ev4 (f c') 0)
    (hs Ps : List K) (bL bR : V2 K) (hpos : ∀ h ∈ hs, 0 < h) (hne0 : hs ≠ []) (hP : Ps.length = hs.length + 1) :
    build (hs.map φ) (Ps.map ψ) (gk bL) (gk bR) = (build hs Ps bL bR).map f :=
  HS.build_transform (o := .quintic) φ ψ gk f hφ hseg
    (fun h c c' e => congrArg₂ V2.mk (h4 h c c' (V2.mk.inj e).1) (h3 h c c' (V2.mk.inj e).2)) hs Ps bL bR hpos hne0 hP

def sc (lam : K) (k : V2 K) : V2 K := ⟨lam * k.x, lam * k.y⟩

def affC (lam a : K) (c : C6 K) : C6 K := ⟨lam * c.c0 + a, lam * c.c1, lam * c.c2, lam * c.c3, lam * c.c4, lam * c.c5⟩

/-- the closure is linear in the data, whatever the time powers -/
theorem closeSeg_affine (lam a : K) (tp : TP K) (p0 p1 : K) (k0 k1 : V2 K) :
    closeSeg ⟨tp, lam * p0 + a, lam * p1 + a - (lam * p0 + a)⟩ (sc lam k0) (sc lam k1)
      = affC lam a (closeSeg ⟨tp, p0, p1 - p0⟩ k0 k1) := by
  simp only [closeSeg, affC, sc, lit_eq]
  push_cast
  apply C6.ext' <;> (simp only []; try ring)

/-- **C14: translation and amplitude scaling** (`lam = 1`: translation by `a`; `a = 0`: scaling by `lam`): waypoints
`lam * p + a` and boundary states `lam • b` give the coefficients `lam * c + (a, 0, …)` — every N ≥ 1, positive durations -/
theorem build_affine (lam a : K) (hs Ps : List K) (bL bR : V2 K) (hpos : ∀ h ∈ hs, 0 < h) (hne0 : hs ≠ [])
    (hP : Ps.length = hs.length + 1) :
    build hs (Ps.map (fun p => lam * p + a)) (sc lam bL) (sc lam bR) = (build hs Ps bL bR).map (affC lam a) := by
  have := build_transform id (fun p => lam * p + a) (sc lam) (affC lam a) (fun h hh => hh)
    (fun h p0 p1 k0 k1 _ => closeSeg_affine lam a (mkTP h) p0 p1 k0 k1)
    (by intro h c c' e; simp only [q_ev3, affC, id] at e ⊢; linear_combination lam * e)
    (by intro h c c' e; simp only [q_ev4, affC, id] at e ⊢; linear_combination lam * e)
    hs Ps bL bR hpos hne0 hP
  rwa [List.map_id] at this

theorem energySeg_affine (lam a T : K) (c : C6 K) : energySeg T (affC lam a c) = lam ^ 2 * energySeg T c := by
  simp only [energySeg, affC, lit_eq]; ring

/-- **C14: scaling all durations by `μ > 0`** with boundary velocity `/μ` and acceleration `/μ²` gives the same curve run
at speed `1/μ` -/
theorem build_timescale (mu : K) (hmu : 0 < mu) (hs Ps : List K) (bL bR : V2 K) (hpos : ∀ h ∈ hs, 0 < h)
    (hne0 : hs ≠ []) (hP : Ps.length = hs.length + 1) :
    build (hs.map (mu * ·)) Ps ⟨bL.x / mu, bL.y / mu ^ 2⟩ ⟨bR.x / mu, bR.y / mu ^ 2⟩
      = (build hs Ps bL bR).map (tsC mu) := by
  have d : ∀ c t, q_ev3 (tsC mu c) (mu * t) = q_ev3 c t / mu ^ 3 ∧ q_ev4 (tsC mu c) (mu * t) = q_ev4 c t / mu ^ 4 :=
    fun c t => by simpa only [mul_div_cancel_left₀ t hmu.ne'] using (q_ev_tsC mu c (mu * t)).2.2.2
  have d0 := fun c => mul_zero mu ▸ d c 0
  have := build_transform (mu * ·) id (fun k => ⟨k.x / mu, k.y / mu ^ 2⟩) (tsC mu) (fun h hh => mul_pos hmu hh)
    (fun h p0 p1 k0 k1 _ => closeSeg_timescale mu hmu.ne' h p0 (p1 - p0) k0 k1)
    (fun h c c' e => by rw [(d c h).1, (d0 c').1, e])
    (fun h c c' e => by rw [(d c h).2, (d0 c').2, e])
    hs Ps bL bR hpos hne0 hP
  rwa [List.map_id] at this

theorem energySeg_timescale (mu T : K) (hmu : mu ≠ 0) (c : C6 K) :
    energySeg (mu * T) (tsC mu c) = energySeg T c / mu ^ 5 := by
  rw [energySeg_tsC, mul_div_cancel_left₀ T hmu]

end QuinticSym

namespace SepticSym
open ST.Septic SepticAdj SepticK
variable {K : Type} [Field K]

theorem energySeg_tsC (mu T : K) (c : C8 K) : energySeg T (tsC mu c) = energySeg (T / mu) c / mu ^ 7 := by
  simp only [energySeg, tsC, lit_eq]; ring

variable [LinearOrder K] [IsStrictOrderedRing K]

/-- **transfer principle** (C14): `QuinticSym.build_transform` for the septic spline, with agreement of the derivatives 4, 5, 6
(`h3`, `h4`, `h5`) -/
theorem build_transform (φ ψ : K → K) (gk : V3 K → V3 K) (f : C8 K → C8 K)
    (hφ : ∀ h, 0 < h → 0 < φ h)
    (hseg : ∀ h p0 p1 k0 k1, h ≠ 0 →
      closeSeg (⟨mkTP (φ h), ψ p0, ψ p1 - ψ p0⟩ : Seg K) (gk k0) (gk k1)
        = f (closeSeg (⟨mkTP h, p0, p1 - p0⟩ : Seg K) k0 k1))
    (h3 : ∀ h c c', s_ev4 c h = s_ev4 c' 0 → s_ev4 (f c) (φ h) = s_ev4 (f c') 0)
    (h4 : ∀ h c c', s_ev5 c h = s_ev5 c' 0 → s_ev5 (f c) (φ h) = s_ev5 (f c') 0)
    (h5 : ∀ h c c', s_ev6 c h = s_ev6 c' 0 → s_ev6 (f c) (φ h) = s_ev6 (f c') 0)
    (hs Ps : List K) (bL bR : V3 K) (hpos : ∀ h ∈ hs, 0 < h) (hne0 : hs ≠ []) (hP : Ps.length = hs.length + 1) :
    build (hs.map φ) (Ps.map ψ) (gk bL) (gk bR) = (build hs Ps bL bR).map f :=
  HS.build_transform (o := .septic) φ ψ gk f hφ hseg
    (fun h c c' e => by
      obtain ⟨e4, e5, e6⟩ := V3.mk.inj e
      exact V3.ext (h3 h c c' e4) (h4 h c c' e5) (h5 h c c' e6)) hs Ps bL bR hpos hne0 hP

def sc (lam : K) (k : V3 K) : V3 K := ⟨lam * k.x, lam * k.y, lam * k.z⟩

def affC (lam a : K) (c : C8 K) : C8 K :=
  ⟨lam * c.c0 + a, lam * c.c1, lam * c.c2, lam * c.c3, lam * c.c4, lam * c.c5, lam * c.c6, lam * c.c7⟩

theorem closeSeg_affine (lam a : K) (tp : TP K) (p0 p1 : K) (k0 k1 : V3 K) :
    closeSeg ⟨tp, lam * p0 + a, lam * p1 + a - (lam * p0 + a)⟩ (sc lam k0) (sc lam k1)
      = affC lam a (closeSeg ⟨tp, p0, p1 - p0⟩ k0 k1) := by
  simp only [closeSeg, affC, sc, lit_eq]
  push_cast
  apply C8.ext' <;> (simp only []; try ring)

/-- **C14: translation and amplitude scaling** (`lam = 1`: translation by `a`; `a = 0`: scaling by `lam`): waypoints
`lam * p + a` and boundary states `lam • b` give the coefficients `lam * c + (a, 0, …)` — every N ≥ 1, positive durations -/
theorem build_affine (lam a : K) (hs Ps : List K) (bL bR : V3 K) (hpos : ∀ h ∈ hs, 0 < h) (hne0 : hs ≠ [])
    (hP : Ps.length = hs.length + 1) :
    build hs (Ps.map (fun p => lam * p + a)) (sc lam bL) (sc lam bR) = (build hs Ps bL bR).map (affC lam a) := by
  have := build_transform id (fun p => lam * p + a) (sc lam) (affC lam a) (fun h hh => hh)
    (fun h p0 p1 k0 k1 _ => closeSeg_affine lam a (mkTP h) p0 p1 k0 k1)
    (by intro h c c' e; simp only [s_ev4, affC, id] at e ⊢; linear_combination lam * e)
    (by intro h c c' e; simp only [s_ev5, affC, id] at e ⊢; linear_combination lam * e)
    (by intro h c c' e; simp only [s_ev6, affC, id] at e ⊢; linear_combination lam * e)
    hs Ps bL bR hpos hne0 hP
  rwa [List.map_id] at this

theorem energySeg_affine (lam a T : K) (c : C8 K) : energySeg T (affC lam a c) = lam ^ 2 * energySeg T c := by
  simp only [energySeg, affC, lit_eq]; ring

/-- **C14: scaling all durations by `μ > 0`** with boundary velocity `/μ`, acceleration `/μ²` and jerk `/μ³` gives the same curve run
at speed `1/μ` -/
theorem build_timescale (mu : K) (hmu : 0 < mu) (hs Ps : List K) (bL bR : V3 K) (hpos : ∀ h ∈ hs, 0 < h)
    (hne0 : hs ≠ []) (hP : Ps.length = hs.length + 1) :
    build (hs.map (mu * ·)) Ps ⟨bL.x / mu, bL.y / mu ^ 2, bL.z / mu ^ 3⟩ ⟨bR.x / mu, bR.y / mu ^ 2, bR.z / mu ^ 3⟩
      = (build hs Ps bL bR).map (tsC mu) := by
  have d : ∀ c t, s_ev4 (tsC mu c) (mu * t) = s_ev4 c t / mu ^ 4 ∧ s_ev5 (tsC mu c) (mu * t) = s_ev5 c t / mu ^ 5 ∧
      s_ev6 (tsC mu c) (mu * t) = s_ev6 c t / mu ^ 6 :=
    fun c t => by simpa only [mul_div_cancel_left₀ t hmu.ne'] using (s_ev_tsC mu c (mu * t)).2.2.2.2
  have d0 := fun c => mul_zero mu ▸ d c 0
  have := build_transform (mu * ·) id (fun k => ⟨k.x / mu, k.y / mu ^ 2, k.z / mu ^ 3⟩) (tsC mu) (fun h hh => mul_pos hmu hh)
    (fun h p0 p1 k0 k1 _ => closeSeg_timescale mu h p0 (p1 - p0) k0 k1)
    (fun h c c' e => by rw [(d c h).1, (d0 c').1, e])
    (fun h c c' e => by rw [(d c h).2.1, (d0 c').2.1, e])
    (fun h c c' e => by rw [(d c h).2.2, (d0 c').2.2, e])
    hs Ps bL bR hpos hne0 hP
  rwa [List.map_id] at this

theorem energySeg_timescale (mu T : K) (hmu : mu ≠ 0) (c : C8 K) :
    energySeg (mu * T) (tsC mu c) = energySeg T c / mu ^ 7 := by
  rw [energySeg_tsC, mul_div_cancel_left₀ T hmu]

end SepticSym
