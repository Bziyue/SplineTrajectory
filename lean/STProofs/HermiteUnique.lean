import STProofs.HermitePivots
import STProofs.HermiteAdjoint
import STProofs.HermiteKKT
/-!
# Quintic / septic spline: unconditional optimality conditions, uniqueness, unconditional adjoint (positive durations, every N)

With `detOK_of_pos` the pivot hypothesis disappears:

* `KKT` : the derivatives `s … 2s−2` are continuous at every interior knot of the built spline;
* `unique` : *any* choice of knot derivatives (with the prescribed boundary states) whose Hermite closure has these
  derivatives continuous is the one the code computes — the optimality system has exactly one solution;
* `adjoint_pos` : `propagateGrad` is the exact adjoint of the construction map.
-/
open ST

namespace HS
variable {o : Deg} {K : Type} [Field K] [LinearOrder K] [IsStrictOrderedRing K]

theorem pivOK2_of_pos (hs Ps : List K) (bL bR : V o K) (hpos : ∀ h ∈ hs, 0 < h) :
    BPivOK2 inv none (rows bL bR (mkSegs o hs Ps)) :=
  detOK_pivOK2 _ _ (detOK_of_pos hs Ps bL bR hpos)

/-- **C02, every N, positive durations**, both orders: the derivatives `s … 2s−2` are continuous at every interior knot -/
theorem KKT (hs Ps : List K) (bL bR : V o K) (hpos : ∀ h ∈ hs, 0 < h) (hP : Ps.length = hs.length + 1) :
    JumpFree hs (build o hs Ps bL bR) :=
  KKT_partial hs Ps bL bR (fun h hh => (hpos h hh).ne') hP (bpivOK_of_2 inv none _ (pivOK2_of_pos hs Ps bL bR hpos))

/-- **uniqueness of the optimality system, every N**: pieces `cs` that are the Hermite closure of some knot derivatives
`bL :: inner ++ [bR]` and have continuous derivatives `s … 2s−2` are the published ones -/
theorem unique (hs Ps : List K) (bL bR : V o K) (inner : List (V o K)) (cs : List (C o K)) (hpos : ∀ h ∈ hs, 0 < h)
    (hP : Ps.length = hs.length + 1) (hin : inner.length + 1 = hs.length)
    (hc : closure (mkSegs o hs Ps) (bL :: inner ++ [bR]) = cs) (hj : JumpFree hs cs) : build o hs Ps bL bR = cs :=
  unique_of_piv hs Ps bL bR inner cs (fun h hh => (hpos h hh).ne') hP hin (pivOK2_of_pos hs Ps bL bR hpos) hc hj

/-- **C05, every N ≥ 1, positive durations**, both orders: `adjoint` with `DetOK` discharged -/
theorem adjoint_pos (hs Ps : List (Dual K)) (bL bR : V o (Dual K)) (gs : List (C o K)) (gT : List K)
    (hne0 : hs ≠ []) (hpos : ∀ h ∈ hs, 0 < h.re)
    (hP : Ps.length = hs.length + 1) (hg : gs.length = hs.length) (hgT : gT.length = hs.length) :
    let b := buildFull o (hs.map Dual.re) (Ps.map Dual.re) (reV bL) (reV bR)
    let out := propagate b gs
    gdotC gs (build o hs Ps bL bR) + dot gT (hs.map Dual.du)
      = dot out.points (Ps.map Dual.du) + dot (zipAdd gT out.times) (hs.map Dual.du)
        + ip out.start (duV bL) + ip out.fin (duV bR) :=
  adjoint hs Ps bL bR gs gT hne0 (fun h hh => (hpos h hh).ne') hP hg hgT
    (detOK_of_pos _ _ _ _ (List.forall_mem_map.mpr hpos))

end HS

namespace QuinticPiv
open ST.Quintic QuinticAdj QuinticK
variable {K : Type} [Field K] [LinearOrder K] [IsStrictOrderedRing K]

/-- **C02 (quintic), every N, positive durations**: jerk and snap are continuous at every interior knot -/
theorem quintic_KKT (hs Ps : List K) (bL bR : V2 K) (hpos : ∀ h ∈ hs, 0 < h) (hP : Ps.length = hs.length + 1) :
    JumpFree34 hs (build hs Ps bL bR) :=
  HS.KKT (o := .quintic) hs Ps bL bR hpos hP

/-- **C02, uniqueness of the optimality system (quintic, every N, positive durations)**: the Hermite closure of *any* interior
knot derivatives `inner` between the boundary states that has continuous jerk and snap is the built spline (`hne0` follows
from `hin`) -/
theorem quintic_unique (hs Ps : List K) (bL bR : V2 K) (inner : List (V2 K))
    (hpos : ∀ h ∈ hs, 0 < h) (hne0 : hs ≠ []) (hP : Ps.length = hs.length + 1) (hin : inner.length + 1 = hs.length)
    (hj : JumpFree34 hs (closure (mkSegs hs Ps) (bL :: inner ++ [bR]))) :
    closure (mkSegs hs Ps) (bL :: inner ++ [bR]) = build hs Ps bL bR :=
  (HS.unique (o := .quintic) hs Ps bL bR inner _ hpos hP hin rfl hj).symm

/-- **C05 (quintic), every N ≥ 1, positive durations**: `propagateGrad` is the exact transpose-Jacobian product of the
construction map — the statement of `QuinticAdj.quintic_adjoint` (how to read it is said there) without the pivot hypothesis -/
theorem quintic_adjoint_pos (hs Ps : List (Dual K)) (bL bR : V2 (Dual K)) (gs : List (C6 K)) (gT : List K)
    (hne0 : hs ≠ []) (hpos : ∀ h ∈ hs, 0 < h.re)
    (hP : Ps.length = hs.length + 1) (hg : gs.length = hs.length) (hgT : gT.length = hs.length) :
    let b := buildFull (hs.map Dual.re) (Ps.map Dual.re) (V2re bL) (V2re bR)
    let out := propagate b gs
    gdotC6 gs (build hs Ps bL bR) + dot gT (hs.map Dual.du)
      = dot out.points (Ps.map Dual.du) + dot (zipAdd gT out.times) (hs.map Dual.du)
        + ip2 out.start (V2du bL) + ip2 out.fin (V2du bR) :=
  HS.adjoint_pos (o := .quintic) hs Ps bL bR gs gT hne0 hpos hP hg hgT

end QuinticPiv

namespace SepticPiv
open ST.Septic SepticAdj SepticK
variable {K : Type} [Field K] [LinearOrder K] [IsStrictOrderedRing K]

/-- **C02 (septic), every N, positive durations**: derivatives 4–6 are continuous at every interior knot -/
theorem septic_KKT (hs Ps : List K) (bL bR : V3 K) (hpos : ∀ h ∈ hs, 0 < h) (hP : Ps.length = hs.length + 1) :
    JumpFree456 hs (build hs Ps bL bR) :=
  HS.KKT (o := .septic) hs Ps bL bR hpos hP

/-- **C02, uniqueness of the optimality system (septic, every N, positive durations)**: the same with derivatives 4–6 -/
theorem septic_unique (hs Ps : List K) (bL bR : V3 K) (inner : List (V3 K))
    (hpos : ∀ h ∈ hs, 0 < h) (hne0 : hs ≠ []) (hP : Ps.length = hs.length + 1) (hin : inner.length + 1 = hs.length)
    (hj : JumpFree456 hs (closure (mkSegs hs Ps) (bL :: inner ++ [bR]))) :
    closure (mkSegs hs Ps) (bL :: inner ++ [bR]) = build hs Ps bL bR :=
  (HS.unique (o := .septic) hs Ps bL bR inner _ hpos hP hin rfl hj).symm

/-- **C05 (septic), every N ≥ 1, positive durations**: the statement of `SepticAdj.septic_adjoint` without the pivot hypothesis -/
theorem septic_adjoint_pos (hs Ps : List (Dual K)) (bL bR : V3 (Dual K)) (gs : List (C8 K)) (gT : List K)
    (hne0 : hs ≠ []) (hpos : ∀ h ∈ hs, 0 < h.re)
    (hP : Ps.length = hs.length + 1) (hg : gs.length = hs.length) (hgT : gT.length = hs.length) :
    let b := buildFull (hs.map Dual.re) (Ps.map Dual.re) (V3re bL) (V3re bR)
    let out := propagate b gs
    gdotC8 gs (build hs Ps bL bR) + dot gT (hs.map Dual.du)
      = dot out.points (Ps.map Dual.du) + dot (zipAdd gT out.times) (hs.map Dual.du)
        + ip3 out.start (V3du bL) + ip3 out.fin (V3du bR) :=
  HS.adjoint_pos (o := .septic) hs Ps bL bR gs gT hne0 hpos hP hg hgT

end SepticPiv
