import STProofs.EvalCore
import STProofs.Assemble
/-!
# C07: the gradient `evaluate` returns is the exact gradient of the cost it returns

`evaluate = decode ; evalCore ; assemble`.  Run over dual numbers on a decision vector `x + ε·dx`, the dual part of the
returned cost equals `⟨grad, dx⟩` where `grad` is what the real run returns — for every order, N, dimension, flag set,
quadrature step count, every time/spatial map whose `backward`/`backwardGrad` are the transposed derivatives of
`toTime`/`toPhysical` (`MapsOK`), every cost-functor triple following the protocol (`CostsOK`), constant
(tangent-free) reference data (`RefsOK`), start time and energy weight, and positive decoded durations.
-/
open ST QuadDual NDAdj NDEnergy EvalCore RoundTrip Assemble
open scoped BigOperators

namespace EvaluateGrad
variable {K : Type} [Field K]

/-- the reference (fixed) data of the dual configuration are the real ones, with zero tangent -/
structure RefsOK (cD : Config (Dual K)) (cR : Config K) : Prop where
  wRe : cD.refWaypoints.map vre = cR.refWaypoints
  wDu : ∀ r ∈ cD.refWaypoints, ∀ e ∈ r, e.du = 0
  bRe : bcRe cD.refBC = cR.refBC
  bDu : ∀ (b : DBlock), ∀ e ∈ cD.refBC.getBlock b, e.du = 0

theorem decode_re {tdom : K → Prop} (cD : Config (Dual K)) (cR : Config K) (hm : MapsOK tdom cD cR) (hr : RefsOK cD cR)
    (x : List (Dual K)) (hdom : ∀ i, i < cR.n → tdom (x.getD i (lit 0)).re) :
    dcRe (decode cD x) = decode cR (x.map Dual.re) := by
  have ht : (decode cD x).times.map Dual.re = (decode cR (x.map Dual.re)).times := by
    rw [decode_times, decode_times, hm.n, List.map_map]
    apply List.map_congr_left; intro i hi
    simp only [Function.comp]
    rw [hm.tmRe _ (hdom i (List.mem_range.mp hi)), getD_map' Dual.re x i (lit 0) (lit 0) rfl]
  have hw : (decode cD x).waypoints.map vre = (decode cR (x.map Dual.re)).waypoints := by
    rw [decode_waypoints, decode_waypoints, layout_eq cD cR hm, ← hr.wRe]
    exact (List.foldl_hom (List.map vre) (fun w v => by
      simp only [setRow, List.map_set]; rw [hm.smRe]; simp only [vre, segment_map])).symm
  have hb : bcRe (decode cD x).bc = (decode cR (x.map Dual.re)).bc := by
    rw [decode_bc, decode_bc, layout_eq cD cR hm, hm.order, hm.flags, hm.dim, ← hr.bRe]
    exact congrArg Prod.fst (List.foldl_hom (fun acc : BC (Dual K) × Nat => (bcRe acc.1, acc.2)) (fun acc b => by
      simp only [bcRe_setBlock, vre, segment_map])).symm
  simp only [dcRe, ht, hw, hb]

/-! ## sums over the optimised points / flagged blocks only -/

theorem sum_layoutFrom (f : Flags) (n : Nat) (udim : Nat → Nat) (F : Nat → K) (fuel i off : Nat)
    (hz : ∀ j, spatialOptimized f n j = false → F j = 0) :
    ∑ j ∈ Finset.Ico i (i + fuel), F j = ((layoutFrom f n udim fuel i off).1.map (fun v => F v.point)).sum := by
  induction fuel generalizing i off with
  | zero => simp [layoutFrom]
  | succ k ih =>
    rw [Finset.sum_eq_sum_Ico_succ_bot (by omega), show i + (k + 1) = (i + 1) + k by omega]
    simp only [layoutFrom]
    split
    · rename_i h
      rw [ih (i + 1) (off + udim i)]
      simp
    · rename_i h
      rw [ih (i + 1) off, hz i (by simpa using h), zero_add]

theorem dot_vdu_zero (g : Vec K) (r : Vec (Dual K)) (h : ∀ e ∈ r, e.du = 0) : dot g (vdu r) = 0 := by
  rw [vdu, List.map_congr_left (g := fun _ => 0) h, List.map_const', dot_comm, dot_replicate_zero]

theorem blocks_sum (o : Order) (f : Flags) (F : DBlock → K) (hz : ∀ b, b ∉ derivBlocks o f → F b = 0) :
    ((derivBlocks o f).map F).sum = F .sv + F .sa + F .sj + F .ev + F .ea + F .ej := by
  -- dropping entries on which `F` vanishes does not change the sum
  have key : ∀ (l : List DBlock) (p : DBlock → Bool), (∀ b, p b = false → F b = 0) →
      ((l.filter p).map F).sum = (l.map F).sum := by
    intro l p hp
    induction l with
    | nil => rfl
    | cons b l ih => cases hb : p b <;> simp [hb, ih, hp b]
  have hspec := derivBlocks_spec o f
  rw [hspec, key _ _ (fun b hb => hz b (by rw [hspec]; simp [List.mem_filter, hb]))]
  simp only [List.map_cons, List.map_nil, List.sum_cons, List.sum_nil]
  ring

/-- un-optimised waypoints and un-flagged boundary blocks are constants (pinned to reference data without tangent): pairing a
gradient record with the tangent of the decoded problem involves the durations, the optimised points and the flagged blocks only -/
theorem ndPair_decode {tdom : K → Prop} (cD : Config (Dual K)) (cR : Config K) (hm : MapsOK tdom cD cR) (hr : RefsOK cD cR)
    (x : List (Dual K)) (g : GradsND K) (hn : 0 < cR.n) (hwl : cD.refWaypoints.length = cR.n + 1)
    (hin : g.inner.length = cR.n - 1) :
    ndPair g ((decode cD x).waypoints.map vdu) ((decode cD x).times.map Dual.du) (bcDu (decode cD x).bc)
      = dot g.times ((decode cD x).times.map Dual.du)
        + (cR.layout.vars.map (fun v => dot (gpOf cR.n g v.point) (vdu ((decode cD x).waypoints.getD v.point [])))).sum
        + ((derivBlocks cR.order cR.flags).map (fun b => dot (bgOf g b) (vdu ((decode cD x).bc.getBlock b)))).sum := by
  have hne : cR.n ≠ 0 := by omega
  have hpts : blockDot (pts g) ((decode cD x).waypoints.map vdu)
      = (cR.layout.vars.map (fun v => dot (pointGradOf cR.n g v.point)
          (vdu ((decode cD x).waypoints.getD v.point [])))).sum := by
    rw [blockDot_eq_sum _ _ (cR.n + 1) (by simp [decode_wps_length, hwl])]
    simp only [getD_map' vdu _ _ [] [] rfl]
    rw [Config.layout, layout_eq_layoutFrom _ _ _ _ _ hne, ← sum_layoutFrom cR.flags cR.n cR.sm.udim
      (fun j => dot (pointGradOf cR.n g j) (vdu ((decode cD x).waypoints.getD j []))) (cR.n + 1) 0 cR.n]
    · rw [Nat.zero_add, ← Finset.range_eq_Ico]
      refine Finset.sum_congr rfl (fun j hj => ?_)
      rw [pts_getD cR.n g j hin (by have := Finset.mem_range.mp hj; omega)]
    · intro j hj
      rw [decode_pinned_wp cD x j (hm.n ▸ hne) (by rw [hm.flags, hm.n]; exact hj)]
      refine dot_vdu_zero _ _ (fun e he => ?_)
      by_cases hjl : j < cD.refWaypoints.length
      · rw [List.getD_eq_getElem _ _ hjl] at he
        exact hr.wDu _ (List.getElem_mem hjl) e he
      · rw [List.getD_eq_default _ _ (by omega)] at he
        exact absurd he List.not_mem_nil
  rw [ndPair_eq, hpts, blocks_sum cR.order cR.flags _ (fun b hb => by
    rw [decode_pinned_blk cD x b (by rw [hm.order, hm.flags]; exact hb)]
    exact dot_vdu_zero _ _ (hr.bDu b))]
  simp only [gpOf, bgOf, blockGradOf, BC.getBlock, bcDu]
  ring

theorem evaluate_cost_eq {α : Type} [NumOrd α] (c : Config α) (x : List α) (costs : Costs α) :
    (evaluate c x costs).cost = (evalCore c (decode c x) costs).cost := rfl

theorem evaluate_grad_eq {α : Type} [NumOrd α] (c : Config α) (x : List α) (costs : Costs α) :
    (evaluate c x costs).grad = assemble c x (decode c x).times (evalCore c (decode c x) costs).g := rfl

section final
variable [LinearOrder K] [IsStrictOrderedRing K] [FloorRing K]

/-- **C07**: the gradient returned by `evaluate` is the exact gradient of the cost returned by `evaluate` -/
theorem evaluate_grad_exact {tdom : K → Prop} (cD : Config (Dual K)) (cR : Config K) (hm : MapsOK tdom cD cR)
    (hr : RefsOK cD cR) (x : List (Dual K)) (hdom : ∀ i, i < cR.n → tdom (x.getD i (lit 0)).re)
    (costsD : Costs (Dual K)) (costsR : Costs K)
    (hst : cR.steps = cD.steps) (hrho : cD.rho.re = cR.rho) (hrho' : cD.rho.du = 0)
    (ht0 : cD.startTime.re = cR.startTime) (ht0' : cD.startTime.du = 0)
    (hn : 0 < cR.n) (hx : x.length = cR.layout.total) (hwl : cD.refWaypoints.length = cR.n + 1)
    (hpos : ∀ h ∈ (decode cR (x.map Dual.re)).times, 0 < h)
    (hc : CostsOK cD.n cD.dim costsD costsR (decode cD x)) :
    (evaluate cD x costsD).cost.du = dot (evaluate cR (x.map Dual.re) costsR).grad (x.map Dual.du) := by
  have hdre := decode_re cD cR hm hr x hdom
  have hposD : ∀ h ∈ (decode cD x).times, 0 < h.re := fun h hh =>
    hpos _ (hdre ▸ List.mem_map.mpr ⟨h, hh, rfl⟩)
  obtain ⟨h1, hsh⟩ := evalCore_dual cD cR (decode cD x) costsD costsR hm.order.symm hm.dim.symm hm.n.symm hst hrho hrho'
    ht0 ht0' (decode_times_length cD x) (by rw [hm.n]; omega) (by rw [decode_wps_length, hwl, hm.n]) hposD hc
  rw [hdre] at h1 hsh
  rw [hm.n, hm.dim] at hsh
  obtain ⟨g, hg⟩ : ∃ g, g = (evalCore cR (decode cR (x.map Dual.re)) costsR).g := ⟨_, rfl⟩
  rw [← hg] at h1 hsh
  have hbg : ∀ b ∈ derivBlocks cR.order cR.flags, (blockGradOf g b).length = cR.dim := fun b _ => by
    cases b
    exacts [hsh.sv, hsh.sa, hsh.sj, hsh.ev, hsh.ea, hsh.ej]
  have hpg : ∀ i, i ≤ cR.n → (pointGradOf cR.n g i).length = cR.dim := by
    intro i hi
    rw [← pts_getD cR.n g i hsh.inner hi]
    apply hsh.rows
    have hlen : i < (pts g).length := by simp [pts, hsh.inner]; omega
    rw [List.getD_eq_getElem _ _ hlen]
    exact List.getElem_mem hlen
  rw [evaluate_cost_eq, evaluate_grad_eq, h1, ← hg, ndPair_decode cD cR hm hr x g hn hwl hsh.inner,
    assemble_adjoint cD cR hm x hdom g hn hx hsh.times hbg hpg hwl]

end final

end EvaluateGrad
