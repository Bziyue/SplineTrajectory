import STProofs.Alg
import STProofs.GradCheckAny
/-!
# The gradient self-check (C19): loop logic

`checkGradients` perturbs one component at a time and restores it: the decision vector handed to the final
evaluation is the checked one, the numerical vector holds the central differences of the optimizer's own cost, the
analytical vector is what `evaluate` writes, and the verdict is exactly `‖analytical − numerical‖² < tol²`.
-/
open ST

section
variable {K : Type} [Field K] [LinearOrder K] [FloorRing K]

/-- central difference of the optimizer's own cost in component `i` -/
noncomputable def centralDiff (c : Config K) (x : List K) (costs : Costs K) (eps : K) (i : Nat) : K :=
  ((evaluate c (setAt x i (x.getD i (lit 0) + eps)) costs).cost
    - (evaluate c (setAt x i (x.getD i (lit 0) - eps)) costs).cost) / (lit 2 * eps)

/-- one iteration of the loop (the local `step` of the model's `checkGradients`): perturb up, perturb down, restore, record
the quotient -/
noncomputable def fdStep (c : Config K) (costs : Costs K) (eps : K) (st : List K × List K) (i : Nat) : List K × List K :=
  let xt := st.1
  let old := xt.getD i (lit 0)
  let cp := (evaluate c (setAt xt i (old + eps)) costs).cost
  let cm := (evaluate c (setAt xt i (old - eps)) costs).cost
  (setAt xt i old, st.2 ++ [(cp - cm) / (lit 2 * eps)])

/-- the loop keeps the working copy equal to `x` at every iteration boundary and appends the central differences -/
theorem fold_invariant (c : Config K) (x : List K) (costs : Costs K) (eps : K) (l : List Nat) (acc : List K) :
    l.foldl (fdStep c costs eps) (x, acc) = (x, acc ++ l.map (centralDiff c x costs eps)) :=
  AnyNum.fold_invariant c x costs eps l acc

/-- **C19**: what the self-check returns — the evaluation at `x` itself, run last (so the workspace is left on `x`), its
gradient, the central differences of the optimizer's own cost, and `valid` = squared error below `tol²` -/
theorem checkGradients_spec (c : Config K) (x : List K) (costs : Costs K) (eps tol : K) :
    let r := checkGradients c x costs eps tol
    r.final = evaluate c x costs ∧
    r.analytical = (evaluate c x costs).grad ∧
    r.numerical = (List.range x.length).map (centralDiff c x costs eps) ∧
    (r.valid = true ↔ r.errNormSq < tol * tol) ∧
    r.errNormSq = dot (List.zipWith (fun a b => a - b) (evaluate c x costs).grad r.numerical)
                      (List.zipWith (fun a b => a - b) (evaluate c x costs).grad r.numerical) := by
  obtain ⟨h1, h2, h3, h4, h5⟩ := AnyNum.checkGradients_spec c x costs eps tol
  exact ⟨h1, h2, h3, h4 ▸ decide_eq_true_iff, h5⟩

/-- the workspace after the check holds the spline of the checked decision vector -/
theorem checkGradients_restores (c : Config K) (x : List K) (costs : Costs K) (eps tol : K) :
    (checkGradients c x costs eps tol).final.spline = (evaluate c x costs).spline :=
  AnyNum.checkGradients_restores c x costs eps tol

/-- if the cost is a polynomial of degree ≤ 2 along coordinate `i` (value `a + b·s + q·s²` at offset `s`), the central
difference is exactly the derivative `b` there — so for such costs a correct analytic gradient gives error 0 -/
theorem central_diff_exact_quadratic (a b q eps : K) (he : eps ≠ 0) [CharZero K] :
    ((a + b * eps + q * eps ^ 2) - (a + b * (-eps) + q * (-eps) ^ 2)) / (2 * eps) = b := by
  field_simp; ring

end
