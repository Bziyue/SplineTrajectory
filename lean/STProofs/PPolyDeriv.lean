import STProofs.PPolyRoutes
import Mathlib.Data.Nat.Factorial.Basic
/-!
# C03 — the derivative trajectory: evaluating `derivative(k)` at order `j` is evaluating the original at order `k + j`

For a well-formed (successfully initialised, strictly increasing breakpoints) piecewise polynomial and every cache state,
`derivative(k)` is again well-formed with the same breakpoints (`derivative_spec`), and all its evaluations are the
higher-order evaluations of the original (`derivative_route`): the falling-factorial factors compose,
`(m+j)_j · (m+j+k)_k = (m+j+k)_{j+k}`.
-/
open ST

theorem factorAux_eq_desc (n k : Nat) (hk : k ≤ n) : factorAux n k = n.descFactorial k := by
  induction k with
  | zero => simp [factorAux]
  | succ k ih =>
    rw [factorAux, ih (by omega), Nat.descFactorial_succ, mul_comm]
    congr 1
    omega

theorem factorEntry_eq_desc (n k : Nat) : factorEntry n k = n.descFactorial k := by
  unfold factorEntry
  split
  · next hk => exact factorAux_eq_desc n k hk
  · next hk => exact (Nat.descFactorial_eq_zero_iff_lt.mpr (by omega)).symm

theorem factorEntry_comp (m j k : Nat) :
    factorEntry (m + j) j * factorEntry (m + j + k) k = factorEntry (m + j + k) (j + k) := by
  simp only [factorEntry_eq_desc]
  simpa using Nat.descFactorial_mul_descFactorial (n := m + j + k) (Nat.le_add_left k j)

theorem getD_map_lt {β γ : Type} (f : β → γ) (l : List β) {i : Nat} (hi : i < l.length) (z : β) (z' : γ) :
    (l.map f).getD i z' = f (l.getD i z) := by
  rw [List.getD_eq_getElem?_getD, List.getD_eq_getElem?_getD, List.getElem?_map, List.getElem?_eq_getElem hi]; rfl

section
variable {K : Type} [Field K]

theorem vscale_vscale (a b : K) (v : Vec K) : vscale a (vscale b v) = vscale (a * b) v := by
  simp [vscale, mul_assoc]

theorem vscale_vzero (c : K) (d : Nat) : vscale c (vzero d : Vec K) = vzero d := by
  simp [vscale, vzero, lit_eq]

/-- the rows of one piece of `derivative(k)`: row `i` is `(i+k)_k · c_{i+k}` -/
def derivRow (nc k : Nat) (seg : List (Vec K)) : List (Vec K) :=
  (List.range (nc - k)).map (fun i => vscale (lit (factorEntry (i + k) k)) (seg.getD (i + k) []))

@[simp] theorem derivRow_length (nc k : Nat) (seg : List (Vec K)) : (derivRow nc k seg).length = nc - k := by simp [derivRow]

theorem derivRow_getD {nc k i : Nat} (seg : List (Vec K)) (hi : i < nc - k) :
    (derivRow nc k seg).getD i [] = vscale (lit (factorEntry (i + k) k)) (seg.getD (i + k) []) := by
  simp only [derivRow, List.getD_eq_getElem?_getD, List.getElem?_map, List.getElem?_range hi, Option.map_some, Option.getD_some]

/-- rows of derivative `j` of the rows of derivative `k` = rows of derivative `k + j`: `(m+j)_j · (m+j+k)_k = (m+j+k)_{j+k}` -/
theorem derivRow_comp (nc k j : Nat) (seg : List (Vec K)) :
    derivRow (nc - k) j (derivRow nc k seg) = derivRow nc (k + j) seg := by
  -- the two outer `derivRow`s only: the inner one is read through `derivRow_getD`
  rw [derivRow.eq_1 (nc - k), Nat.sub_sub, derivRow.eq_1 nc (k + j)]
  refine List.map_congr_left fun m hm => ?_
  have hm := List.mem_range.mp hm
  rw [derivRow_getD _ (by omega), vscale_vscale, show m + (k + j) = m + j + k by omega, Nat.add_comm k j,
    ← factorEntry_comp, lit_eq, lit_eq, lit_eq, Nat.cast_mul]

/-- level `k` of the cache-free derivative table is the coefficient table of `derivative(k)` -/
theorem derivTable_getD (p : PPoly K) {k s : Nat} (hk : k < p.numCoeffs) (hs : s < p.coeffs.length) :
    ((derivTable p).getD k []).getD s [] = derivRow p.numCoeffs k (p.coeffs.getD s []) := by
  rw [derivTable, getD_map_lt _ _ (by rwa [List.length_range]) 0, getD_map_lt _ _ hs []]
  simp only [List.getD_eq_getElem?_getD, List.getElem?_range hk, Option.getD_some, derivRow]

end

section
variable {K : Type} [Field K] [LinearOrder K] [FloorRing K]

/-- what evaluation uses of a successfully initialised object: the sizes `initializeInternal` has checked, at least one piece
and one coefficient, and strictly increasing breakpoints -/
structure WF (p : PPoly K) : Prop where
  bps : p.breakpoints.length = p.numSegments + 1
  ns : 1 ≤ p.numSegments
  nc : 1 ≤ p.numCoeffs
  cl : p.coeffs.length = p.numSegments
  fo : ∀ o, p.fixedOrder = some o → p.numCoeffs ≤ o
  sorted : Sorted p.breakpoints

omit [Field K] [FloorRing K] in
theorem WF.of_fresh {dim : Nat} {fo : Option Nat} {bps : List K} {blocks : List (List (Vec K))} {nc n : Nat}
    (hb : bps.length = n + 1) (hl : blocks.length = n) (hn : 1 ≤ n) (h1 : 1 ≤ nc) (hfo : ∀ o, fo = some o → nc ≤ o)
    (hs : Sorted bps) : WF (PPoly.fresh dim fo bps blocks nc) :=
  have h : bps.length - 1 = n := by rw [hb]; rfl
  ⟨hb.trans (congrArg (· + 1) h.symm), hn.trans_eq h.symm, h1, hl.trans h.symm, hfo, hs⟩

omit [Field K] [FloorRing K] in
theorem WF.specIdx_lt {p : PPoly K} (hw : WF p) (t : K) : specIdx p.breakpoints t < p.coeffs.length := by
  rw [hw.cl]
  exact (specIdx_le _ t).trans_lt (by rw [hw.bps]; exact Nat.sub_lt_of_pos_le Nat.one_pos hw.ns)

/-- **evaluation of a well-formed object, every cache state**: Horner on the derivative rows of the piece `specIdx`
prescribes, at the local time of that piece (zero from order `numCoeffs` on) -/
theorem WF.evaluate {p : PPoly K} (hw : WF p) (hi : CacheInv p) (t : K) (j : Nat) :
    (p.evaluate t (j : Int)).2 = if p.numCoeffs ≤ j then vzero p.dim
      else PPoly.horner (t - p.breakpoints.getD (specIdx p.breakpoints t) 0)
        (derivRow p.numCoeffs j (p.coeffs.getD (specIdx p.breakpoints t) [])) := by
  rw [evaluate_eq_pure p hi, evalPure_nat, findSegment_spec p t hw.sorted hw.bps hw.ns]
  split
  · rfl
  · next hj => rw [derivTable_getD p (Nat.lt_of_not_le hj) (hw.specIdx_lt t), lit_eq, Nat.cast_zero]

/-- the same for an object given by its data -/
theorem WF.evaluate_fresh {dim : Nat} {fo : Option Nat} {bps : List K} {blocks : List (List (Vec K))} {nc : Nat}
    (hw : WF (PPoly.fresh dim fo bps blocks nc)) (hi : CacheInv (PPoly.fresh dim fo bps blocks nc)) (t : K) (j : Nat) :
    ((PPoly.fresh dim fo bps blocks nc).evaluate t (j : Int)).2 = if nc ≤ j then vzero dim
      else PPoly.horner (t - bps.getD (specIdx bps t) 0) (derivRow nc j (blocks.getD (specIdx bps t) [])) :=
  hw.evaluate hi t j

/-- `derivative(k)` for `k < numCoeffs`, whatever the cache state: the object with the rows `derivRow` of every piece -/
theorem derivative_data (p : PPoly K) (hi : CacheInv p) (hw : WF p) (k : Nat) (hk : k < p.numCoeffs) :
    (p.derivative (k : Int)).2
      = PPoly.fresh p.dim p.fixedOrder p.breakpoints (p.coeffs.map (derivRow p.numCoeffs k)) (p.numCoeffs - k) := by
  have hns : p.numSegments ≠ 0 := by have := hw.ns; omega
  have hkk : ¬ ((k : Int) ≥ (p.numCoeffs : Int)) := by omega
  -- the object after the optional table construction has the same data, and its factor lookups return `factorEntry`
  obtain ⟨hi1, hs1⟩ := AnyNum.ite_ensureTable_inv p hi.any ((!p.usesStaticOnly && !decide (p.numCoeffs ≤ kStaticMax)) = true)
  have hq : (p.derivative (k : Int)).2 = PPoly.init (PPoly.empty p.dim p.fixedOrder) p.breakpoints
      (p.coeffs.flatMap (derivRow p.numCoeffs k)) ((p.numCoeffs - k : Nat) : Int) := by
    simp only [PPoly.derivative, hns, if_false, hkk, Int.toNat_natCast, ← hs1.coeffs_eq]
    congr 1
    refine List.flatMap_congr fun seg _ => List.map_congr_left fun i hi' => ?_
    rw [(AnyNum.derivativeFactor_spec _ hi1 (i + k) k (by have := List.mem_range.mp hi'; have := hs1.numCoeffs_eq; omega)).1]
  rw [hq, PPoly.init_flatMap _ _ _ _ _ _ (by rw [hw.bps, hw.cl]) (by rw [← List.length_pos_iff, hw.cl]; exact hw.ns)
    (fun _ _ => derivRow_length _ _ _) (by intro o ho; have := hw.fo o ho; omega)]

/-- `derivative(k)` for `k ≥ numCoeffs`: the zero trajectory, one row `vzero` per piece -/
theorem derivative_zero_data (p : PPoly K) (hw : WF p) (k : Nat) (hk : p.numCoeffs ≤ k) :
    (p.derivative (k : Int)).2
      = PPoly.fresh p.dim p.fixedOrder p.breakpoints (List.replicate p.numSegments [vzero p.dim]) 1 := by
  have hns : p.numSegments ≠ 0 := by have := hw.ns; omega
  have hkk : ((k : Int) ≥ (p.numCoeffs : Int)) := by omega
  rw [← List.map_replicate (f := fun z : Vec K => [z]), ← PPoly.init_flatMap _ _ _ _ _ 1 (by simp [hw.bps]) (by simpa using hns)
    (fun _ _ => rfl) (by intro o ho; have := hw.fo o ho; have := hw.nc; omega)]
  simp only [PPoly.derivative, hns, if_false, hkk, if_true, List.flatMap_singleton']; rfl

/-- **`derivative(k)` of a well-formed object, whatever the cache state**: well-formed again, with consistent caches, on the
same breakpoints; its pieces carry the rows `derivRow` of the original ones, or one zero row each when `k ≥ numCoeffs` -/
theorem derivative_spec (p : PPoly K) (hi : CacheInv p) (hw : WF p) (k : Nat) :
    let q := (p.derivative (k : Int)).2
    WF q ∧ CacheInv q ∧ q.dim = p.dim ∧ q.breakpoints = p.breakpoints ∧
    (k < p.numCoeffs → q.numCoeffs = p.numCoeffs - k ∧ q.coeffs = p.coeffs.map (derivRow p.numCoeffs k)) ∧
    (p.numCoeffs ≤ k → q.numCoeffs = 1 ∧ q.coeffs = List.replicate p.numSegments [vzero p.dim]) := by
  have hiq := (derivative_inv p hi (k : Int)).2.2
  rcases Nat.lt_or_ge k p.numCoeffs with hk | hk
  · rw [derivative_data p hi hw k hk] at hiq ⊢
    exact ⟨.of_fresh hw.bps ((List.length_map _).trans hw.cl) hw.ns (Nat.sub_pos_of_lt hk)
      (fun o ho => (Nat.sub_le _ _).trans (hw.fo o ho)) hw.sorted, hiq, rfl, rfl, fun _ => ⟨rfl, rfl⟩, fun h => absurd hk h.not_gt⟩
  · rw [derivative_zero_data p hw k hk] at hiq ⊢
    exact ⟨.of_fresh hw.bps List.length_replicate hw.ns le_rfl (fun o ho => hw.nc.trans (hw.fo o ho)) hw.sorted,
      hiq, rfl, rfl, fun h => absurd hk h.not_ge, fun _ => ⟨rfl, rfl⟩⟩

/-- **C03, the derivative-trajectory route**: `derivative(k)` evaluated at order `j` returns what the original returns at order
`k + j`, whatever the cache state of the original -/
theorem derivative_route (p : PPoly K) (hi : CacheInv p) (hw : WF p) (k j : Nat) (t : K) :
    (((p.derivative (k : Int)).2).evaluate t (j : Int)).2 = (p.evaluate t ((k : Int) + (j : Int))).2 := by
  obtain ⟨hwq, hiq, ed, eb, elt, ege⟩ := derivative_spec p hi hw k
  have hsl := hw.specIdx_lt t
  rw [hwq.evaluate hiq, ed, eb, ← Nat.cast_add, hw.evaluate hi]
  rcases Nat.lt_or_ge k p.numCoeffs with hk | hk
  · rw [(elt hk).1, (elt hk).2, getD_map_lt _ _ hsl [], derivRow_comp, if_congr Nat.sub_le_iff_le_add' rfl rfl]
  · rw [(ege hk).1, (ege hk).2, if_pos (Nat.le_add_right_of_le hk)]
    split
    · rfl
    · next hj =>
      obtain rfl : j = 0 := Nat.lt_one_iff.mp (Nat.lt_of_not_le hj)
      rw [show (List.replicate p.numSegments [vzero p.dim]).getD (specIdx p.breakpoints t) [] = [vzero p.dim] by
        rw [List.getD_eq_getElem?_getD, List.getElem?_replicate, if_pos (hw.cl ▸ hsl)]; rfl]
      exact vscale_vzero (K := K) _ _
end
