import STProofs.CubicKKT
/-!
# C14 (cubic): translation, amplitude scaling and time scaling — every N

One transfer principle (`build_transform`): if the data change so that durations are multiplied by `α`, slopes and
boundary velocities by `β`, then the rows of the tridiagonal system are scaled (`a,b,c` by `α`, `d` by `β`), so `γ·M`
with `α·γ = β` solves the new system, and the solve is unique (`knotM_unique`); it remains to compare one closure piece.

* `build_translate` : waypoints + v ⇒ constant coefficient + v, all others unchanged.  Here `α = β = γ = 1` and the rows do
  not change at all, so uniqueness, hence positivity of the durations, is not needed: it is proved from the parts of the
  principle (`mkSegs_scaleSeg`, `rows_scaleSeg`, `closure_map`) for all inputs.
* `build_scale` : waypoints and boundary velocities × λ ⇒ coefficients × λ; energy × λ².
* `build_timescale` : durations × μ (μ > 0), boundary velocities ÷ μ ⇒ `c_k / μᵏ`; energy ÷ μ³.
-/
open ST ST.Cubic CubicEG

namespace CubicSym
section field
variable {K : Type} [Field K]

def scaleRow (α β : K) (r : Row K) : Row K := ⟨α * r.a, α * r.b, α * r.c, β * r.d⟩

theorem solves_scaleRow (α β γ : K) (hγ : α * γ = β) (rows : List (Row K)) (xp : K) (xs : List K)
    (h : Solves xp rows xs) : Solves (γ * xp) (rows.map (scaleRow α β)) (xs.map (γ * ·)) := by
  induction rows generalizing xp xs with
  | nil => cases xs <;> simp_all [Solves]
  | cons r rs ih =>
    match xs, h with
    | x :: xs, ⟨hrow, hrest⟩ =>
      refine ⟨?_, ih x xs hrest⟩
      have hh : (xs.map (γ * ·)).headD 0 = γ * xs.headD 0 := by cases xs <;> simp
      rw [hh]; simp only [scaleRow, ← hγ]
      linear_combination (α * γ) * hrow

theorem scaleRow_one (rows : List (Row K)) : rows.map (scaleRow 1 1) = rows :=
  List.map_id'' (fun r => by simp [scaleRow]) rows

/-- durations × α, slopes × β, knot values through ψ -/
def scaleSeg (α β : K) (ψ : K → K) (s : Seg K) : Seg K := ⟨α * s.h, ψ s.p0, α * β * s.dp, β * s.pd⟩

theorem mkSegs_scaleSeg (α β : K) (ψ : K → K) (hα : α ≠ 0) (hψ : ∀ p q, ψ q - ψ p = α * β * (q - p))
    (hs Ps : List K) : mkSegs (hs.map (α * ·)) (Ps.map ψ) = (mkSegs hs Ps).map (scaleSeg α β ψ) := by
  induction hs generalizing Ps with
  | nil => cases Ps <;> simp [mkSegs]
  | cons a hs ih =>
    match Ps with
    | [] | [_] => simp [mkSegs]
    | p0 :: p1 :: P =>
      have := ih (p1 :: P)
      simp only [List.map_cons] at this
      simp only [List.map_cons, mkSegs, this, scaleSeg, hψ, lit_eq, Nat.cast_one]
      congr 2
      field_simp

theorem interiorRows_scaleSeg (α β : K) (ψ : K → K) (vn : K) (prev : Seg K) (rest : List (Seg K)) :
    interiorRows (β * vn) (scaleSeg α β ψ prev) (rest.map (scaleSeg α β ψ))
      = (interiorRows vn prev rest).map (scaleRow α β) := by
  induction rest generalizing prev with
  | nil => simp only [List.map_nil, interiorRows, scaleSeg, scaleRow, List.map_cons, lit_eq]; congr 2 <;> ring
  | cons s rest ih =>
    simp only [List.map_cons, interiorRows, ih s]
    simp only [scaleSeg, scaleRow, lit_eq]; congr 2 <;> ring

theorem rows_scaleSeg (α β : K) (ψ : K → K) (v0 vn : K) (segs : List (Seg K)) :
    rows (β * v0) (β * vn) (segs.map (scaleSeg α β ψ)) = (rows v0 vn segs).map (scaleRow α β) := by
  cases segs with
  | nil => rfl
  | cons s rest =>
    simp only [List.map_cons, rows, interiorRows_scaleSeg]
    simp only [scaleSeg, scaleRow, lit_eq]; congr 2 <;> ring

theorem closure_map (g : Seg K → Seg K) (γ : K) (f : C4 K → C4 K) (segs : List (Seg K)) (ms : List K)
    (hpiece : ∀ s ∈ segs, ∀ m0 m1, piece (g s) (γ * m0) (γ * m1) = f (piece s m0 m1)) :
    closure (segs.map g) (ms.map (γ * ·)) = (closure segs ms).map f := by
  induction segs generalizing ms with
  | nil => cases ms <;> simp [closure]
  | cons s rest ih =>
    match ms with
    | [] | [_] => simp [closure]
    | m0 :: m1 :: ms' =>
      have := ih (m1 :: ms') (fun x hx => hpiece x (by simp [hx]))
      simp only [List.map_cons] at this
      simp only [List.map_cons, closure_cons, this, hpiece s (by simp)]

end field

section ordered
variable {K : Type} [Field K] [LinearOrder K] [IsStrictOrderedRing K]

theorem knotM_scaleSeg (α β γ : K) (ψ : K → K) (hα : 0 < α) (hγ : α * γ = β) (v0 vn : K) (segs : List (Seg K))
    (hp : AllPos segs) :
    knotM (β * v0) (β * vn) (segs.map (scaleSeg α β ψ)) = (knotM v0 vn segs).map (γ * ·) := by
  have hp' : AllPos (segs.map (scaleSeg α β ψ)) := by
    simp only [allPos_iff, List.forall_mem_map] at hp ⊢
    exact fun s hs => mul_pos hα (hp s hs)
  apply knotM_unique _ _ _ hp'
  rw [rows_scaleSeg]
  simpa using solves_scaleRow α β γ hγ _ 0 _ (knotM_solves v0 vn segs hp)

/-- **transfer principle (cubic)**: a change of the data that multiplies durations by `α > 0`, slopes and boundary
velocities by `β`, and maps each closure piece over `γ·M` (`α γ = β`) to `f` of the old piece, maps `build` through `f` -/
theorem build_transform (α β γ : K) (ψ : K → K) (f : C4 K → C4 K) (hα : 0 < α) (hγ : α * γ = β)
    (hψ : ∀ p q, ψ q - ψ p = α * β * (q - p))
    (hpiece : ∀ s : Seg K, 0 < s.h → ∀ m0 m1, piece (scaleSeg α β ψ s) (γ * m0) (γ * m1) = f (piece s m0 m1))
    (hs Ps : List K) (v0 vn : K) (hpos : PosList hs) :
    build (hs.map (α * ·)) (Ps.map ψ) (β * v0) (β * vn) = (build hs Ps v0 vn).map f := by
  have hap := allPos_mkSegs hs Ps hpos
  simp only [build, mkSegs_scaleSeg α β ψ hα.ne' hψ, knotM_scaleSeg α β γ ψ hα hγ v0 vn _ hap]
  exact closure_map _ γ f _ _ fun s hs => hpiece s ((allPos_iff _).mp hap s hs)

def scC (lam : K) (c : C4 K) : C4 K := ⟨lam * c.c0, lam * c.c1, lam * c.c2, lam * c.c3⟩

/-- **C14: scaling waypoints and boundary velocities by λ scales the trajectory by λ** (cubic, every N) -/
theorem build_scale (lam : K) (hs Ps : List K) (v0 vn : K) (hpos : PosList hs) :
    build hs (Ps.map (lam * ·)) (lam * v0) (lam * vn) = (build hs Ps v0 vn).map (scC lam) := by
  have := build_transform 1 lam lam (lam * ·) (scC lam) one_pos (one_mul _) (fun p q => by ring)
    (fun s hs m0 m1 => by
      ext <;> simp only [piece, scaleSeg, scC, one_mul] <;> ring) hs Ps v0 vn hpos
  simpa using this

theorem energySeg_scale (lam T : K) (c : C4 K) : energySeg T (scC lam c) = lam ^ 2 * energySeg T c := by
  simp only [energySeg, scC, lit_eq]; ring

def tsC (mu : K) (c : C4 K) : C4 K := ⟨c.c0, c.c1 / mu, c.c2 / mu ^ 2, c.c3 / mu ^ 3⟩

/-- **C14: scaling all durations by μ > 0** (boundary velocities ÷ μ) gives the same curve run at speed 1/μ (cubic) -/
theorem build_timescale (mu : K) (hmu : 0 < mu) (hs Ps : List K) (v0 vn : K) (hpos : PosList hs) :
    build (hs.map (mu * ·)) Ps (v0 / mu) (vn / mu) = (build hs Ps v0 vn).map (tsC mu) := by
  have hm : mu ≠ 0 := hmu.ne'
  have := build_transform mu (1 / mu) (1 / mu ^ 2) id (tsC mu) hmu (by field_simp) (fun p q => by simp; field_simp)
    (fun s hs m0 m1 => by
      have := hs.ne'
      ext <;> simp only [piece, scaleSeg, tsC, id] <;> field_simp) hs Ps v0 vn hpos
  simpa [div_eq_inv_mul] using this

theorem energySeg_timescale (mu T : K) (hmu : mu ≠ 0) (c : C4 K) :
    energySeg (mu * T) (tsC mu c) = energySeg T c / mu ^ 3 := by
  simp only [energySeg, tsC, lit_eq]; field_simp

end ordered
end CubicSym

namespace CubicTr
open CubicSym
variable {K : Type} [Field K]

/-- **translating all waypoints translates the trajectory** (constant coefficient shifts, all others — hence every
derivative, the energy and its gradients — are unchanged), cubic, every N -/
theorem build_translate (v v0 vn : K) (h P : List K) :
    build h (P.map (· + v)) v0 vn = (build h P v0 vn).map (fun c => ⟨c.c0 + v, c.c1, c.c2, c.c3⟩) := by
  have hm := mkSegs_scaleSeg 1 1 (· + v) one_ne_zero (fun p q => by ring) h P
  have hr := rows_scaleSeg 1 1 (· + v) v0 vn (mkSegs h P)
  have hc := closure_map (scaleSeg 1 1 (· + v)) 1 (fun c => ⟨c.c0 + v, c.c1, c.c2, c.c3⟩) (mkSegs h P)
    (knotM v0 vn (mkSegs h P)) (fun s _ m0 m1 => by simp [piece, scaleSeg])
  simp only [one_mul, List.map_id', scaleRow_one] at hm hr hc
  simp only [build, knotM, hm, hr] at hc ⊢
  exact hc

theorem energy_translate (v v0 vn : K) (h P : List K) :
    energy h (build h (P.map (· + v)) v0 vn) = energy h (build h P v0 vn) := by
  rw [build_translate]
  generalize build h P v0 vn = cs
  induction h generalizing cs with
  | nil => cases cs <;> simp [energy]
  | cons T Ts ih =>
    cases cs with
    | nil => simp [energy]
    | cons c cs => simp only [List.map_cons, energy, ih cs, energySeg]
end CubicTr
