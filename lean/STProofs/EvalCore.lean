import STProofs.NDEnergy
/-!
# C07: the gradient `evaluate` computes w.r.t. the decoded quantities is the exact derivative of the returned cost

`evalCore` (spline construction, time cost, trapezoid integral cost, adjoint propagation, waypoint cost, energy term) is run
over dual numbers; the dual part of its cost equals the pairing of the gradient record the real run returns with the
tangent of (waypoints, durations, boundary states) — positive decoded durations; every order, N, dimension, number of
quadrature steps, every cost functor triple following the documented protocol.
-/
open ST QuadDual NDAdj NDEnergy
open scoped BigOperators

namespace EvalCore

section generic
variable {α : Type}

/-- the waypoint-cost gradient added to the point gradients (code: `grads.start.p += …; inner += …; end.p += …`) -/
def addWp [Num α] (n : Nat) (g0 : GradsND α) (gq : List (Vec α)) : GradsND α :=
  { g0 with start := { g0.start with p := vadd g0.start.p (gq.getD 0 []) },
            inner := List.zipWith vadd g0.inner ((gq.drop 1).take (n - 1)),
            fin := { g0.fin with p := vadd g0.fin.p (gq.getD n []) } }

/-- `ρ ·` analytic energy gradient added (boundary blocks gated by the order) -/
def addEnergy [Num α] (rho : α) (o : Order) (g1 eg : GradsND α) : GradsND α :=
  let ad (a b : Vec α) := vadd a (vscale rho b)
  { inner := List.zipWith ad g1.inner eg.inner,
    times := zipAdd g1.times (scale rho eg.times),
    start := ⟨ad g1.start.p eg.start.p, ad g1.start.v eg.start.v,
              if o.degree ≥ 5 then ad g1.start.a eg.start.a else g1.start.a,
              if o.degree ≥ 7 then ad g1.start.j eg.start.j else g1.start.j⟩,
    fin := ⟨ad g1.fin.p eg.fin.p, ad g1.fin.v eg.fin.v,
            if o.degree ≥ 5 then ad g1.fin.a eg.fin.a else g1.fin.a,
            if o.degree ≥ 7 then ad g1.fin.j eg.fin.j else g1.fin.j⟩ }

theorem coeffs_length [Num α] (o : Order) (d : Nat) (hs : List α) (P : List (Vec α)) (t0 : α) (bc : BC α) :
    (buildND o d hs P t0 bc).coeffs.length = hs.length := (List.length_map _).trans List.length_range

section pieces
variable [Num α] (o : Order) (d n steps : Nat) (t0 : α) (dc : Decoded α) (costs : Costs α)

def segAccs : List (SegAcc α) :=
  (List.range n).map (fun i =>
    (quadSegment o d steps costs.run i (dc.times.getD i (lit 0)) ((segStarts t0 dc.times).getD i (lit 0))
      ((buildND o d dc.times dc.waypoints t0 dc.bc).coeffs.getD i [])).1)

def gdT2 : List α :=
  zipAdd (zipAdd (zipAdd (List.replicate n (lit 0)) (costs.time dc.times).2) ((segAccs o d n steps t0 dc costs).map (·.gdT)))
    (suffixAdd ((segAccs o d n steps t0 dc costs).map (·.expl)))

def g0 : GradsND α :=
  propagateND o d dc.times dc.waypoints dc.bc ((segAccs o d n steps t0 dc costs).map (·.gdC)) (gdT2 o d n steps t0 dc costs)

def cost1 : α :=
  ((segAccs o d n steps t0 dc costs).map (·.cost)).foldl (· + ·) (lit 0 + (costs.time dc.times).1)

/-- cost and gradient record after the waypoint-cost stage -/
def wpStage : α × GradsND α :=
  match costs.waypoints with
  | none => (cost1 o d n steps t0 dc costs, g0 o d n steps t0 dc costs)
  | some wf => (cost1 o d n steps t0 dc costs + (wf dc.waypoints).1, addWp n (g0 o d n steps t0 dc costs) (wf dc.waypoints).2)

/-- the accumulators as the zip over (durations, start times, coefficient blocks) that `integral_cost_dual` speaks of -/
theorem segAccs_eq (hT : dc.times.length = n) :
    segAccs o d n steps t0 dc costs = intAcc o d steps costs.run 0 dc.times (segStarts t0 dc.times)
      (buildND o d dc.times dc.waypoints t0 dc.bc).coeffs := by
  rw [intAcc_eq_range _ _ _ _ n _ _ _ hT (by rw [segStarts_length, hT]) (by rw [coeffs_length, hT]) 0]
  simp only [segAccs, Nat.zero_add]

end pieces

/-- `evalCore`, cost and gradient record, in named pieces: the stages of `evalCore` read only the order, dimension, segment
count, step count and start time of the configuration -/
theorem evalCore_parts [NumOrd α] (c : Config α) (dc : Decoded α) (costs : Costs α) :
    let sp := buildND c.order c.dim dc.times dc.waypoints c.startTime dc.bc
    let cg : α × GradsND α := wpStage c.order c.dim c.n c.steps c.startTime dc costs
    (evalCore c dc costs).cost = (if NumOrd.lt (lit 0) c.rho then cg.1 + c.rho * sp.energy else cg.1) ∧
    (evalCore c dc costs).g = (if NumOrd.lt (lit 0) c.rho then addEnergy c.rho c.order cg.2 sp.energyGrad else cg.2) := by
  unfold evalCore wpStage cost1 g0 gdT2 segAccs
  cases costs.waypoints <;> (simp only [List.map_map]; split <;> exact ⟨rfl, rfl⟩)

end generic

section lin
variable {K : Type} [Field K]

/-- shape of a gradient record for `n` segments in `d` dimensions -/
structure GShape (n d : Nat) (g : GradsND K) : Prop where
  inner : g.inner.length = n - 1
  rows : ∀ r ∈ pts g, r.length = d
  times : g.times.length = n
  sv : g.start.v.length = d
  sa : g.start.a.length = d
  sj : g.start.j.length = d
  ev : g.fin.v.length = d
  ea : g.fin.a.length = d
  ej : g.fin.j.length = d

/-- `n + 1` rows, written `n - 1 + 2` so that no `1 ≤ n` is needed -/
theorem GShape.pts_shape {R : Type} {n d : Nat} {g : GradsND R} (hg : GShape n d g) : Shape (n - 1 + 2) d (pts g) :=
  ⟨by simp [pts, hg.inner], hg.rows⟩

theorem dot_ad (rho : K) (a b x : Vec K) (h : a.length = b.length) :
    dot (vadd a (vscale rho b)) x = dot a x + rho * dot b x := by
  rw [dot_vadd_left _ _ _ (by simp [vscale, h]), dot_vscale_left]

theorem take_append_getD {β : Type} (m : Nat) (l : List (List β)) (hl : l.length = m + 1) : l.take m ++ [l.getD m []] = l := by
  induction m generalizing l with
  | zero => match l, hl with
    | [a], _ => simp
  | succ m ih => match l, hl with
    | a :: l', hl => simp only [List.take_succ_cons, List.cons_append, List.getD_cons_succ, ih l' (by simpa using hl)]

theorem pts_addWp (n : Nat) (g : GradsND K) (gq : List (Vec K)) (hn : 1 ≤ n) (hi : g.inner.length = n - 1)
    (hq : gq.length = n + 1) : pts (EvalCore.addWp n g gq) = blockAdd (pts g) gq := by
  obtain ⟨m, rfl⟩ : ∃ m, n = m + 1 := ⟨n - 1, by omega⟩
  match gq, hq with
  | a :: rest, hq =>
    have hr : rest.length = m + 1 := by simpa using hq
    have e := take_append_getD m rest hr
    simp only [pts, EvalCore.addWp, blockAdd, List.getD_cons_zero, List.getD_cons_succ, List.drop_succ_cons, List.drop_zero,
      Nat.add_sub_cancel, List.zipWith_cons_cons]
    congr 1
    conv_rhs => rw [← e]
    rw [List.zipWith_append (by rw [hi]; simp [hr])]
    simp

theorem pts_addEnergy (rho : K) (o : Order) (g1 eg : GradsND K) (hi : g1.inner.length = eg.inner.length) :
    pts (EvalCore.addEnergy rho o g1 eg) = blockAdd (pts g1) (blockScale rho (pts eg)) := by
  simp only [pts, EvalCore.addEnergy, blockAdd, blockScale, List.zipWith_map_right, List.zipWith_cons_cons]
  rw [List.zipWith_append hi]
  simp

theorem dot_zipAdd_scale (rho : K) (a b dh : List K) (h : a.length = b.length) :
    dot (zipAdd a (scale rho b)) dh = dot a dh + rho * dot b dh := by
  rw [zipAdd_eq_vadd]; exact dot_ad rho a b dh h

/-- three lists added onto zeros pair as the first plus the sum of the other two: the shape of the duration gradient handed
to `propagateGrad` (user time cost, `gdT`, suffix sums of `expl`) -/
theorem dot_gdT (n : Nat) (a b c x : List K) (ha : a.length = n) (hb : b.length = n) (hc : c.length = n) :
    dot (zipAdd (zipAdd (zipAdd (List.replicate n (lit 0)) a) b) c) x = dot a x + dot (zipAdd b c) x := by
  rw [lit_eq, Nat.cast_zero, zipAdd_replicate_zero ha]
  simp only [zipAdd_eq_vadd]
  rw [dot_vadd_left _ c x (by rw [vadd_length a b (ha.trans hb.symm), ha, hc]), dot_vadd_left a b x (ha.trans hb.symm),
    dot_vadd_left b c x (hb.trans hc.symm), add_assoc]

theorem ndPair_addWp (n d : Nat) (g0 : GradsND K) (gq dP : List (Vec K)) (dh : List K) (dbc : BC K) (hn : 1 ≤ n)
    (hg : GShape n d g0) (hq : gq.length = n + 1) (hqr : ∀ r ∈ gq, r.length = d) :
    ndPair (EvalCore.addWp n g0 gq) dP dh dbc = ndPair g0 dP dh dbc + blockDot gq dP := by
  rw [ndPair_eq, ndPair_eq, pts_addWp n g0 gq hn hg.inner hq, blockDot_add hg.pts_shape ⟨by omega, hqr⟩]
  simp only [EvalCore.addWp]
  ring

theorem ndPair_addEnergy (rho : K) (o : Order) (n d : Nat) (g1 eg : GradsND K) (dP : List (Vec K)) (dh : List K)
    (dbc : BC K) (h1 : GShape n d g1) (h2 : GShape n d eg) (hdh : dh.length = n)
    (ha : 5 ≤ o.degree ∨ (dot eg.start.a dbc.a0 = 0 ∧ dot eg.fin.a dbc.an = 0))
    (hj : 7 ≤ o.degree ∨ (dot eg.start.j dbc.j0 = 0 ∧ dot eg.fin.j dbc.jn = 0)) :
    ndPair (EvalCore.addEnergy rho o g1 eg) dP dh dbc = ndPair g1 dP dh dbc + rho * ndPair eg dP dh dbc := by
  rw [ndPair_eq, ndPair_eq, ndPair_eq, pts_addEnergy rho o g1 eg (by rw [h1.inner, h2.inner]),
    blockDot_add h1.pts_shape (shape_blockScale rho h2.pts_shape), blockDot_scale]
  simp only [EvalCore.addEnergy]
  rw [dot_zipAdd_scale rho _ _ _ (by rw [h1.times, h2.times]),
    dot_ad rho _ _ _ (by rw [h1.sv, h2.sv]), dot_ad rho _ _ _ (by rw [h1.ev, h2.ev])]
  have gate : ∀ (k : Nat) (a b x : Vec K), a.length = b.length → (k ≤ o.degree ∨ dot b x = 0) →
      dot (if o.degree ≥ k then vadd a (vscale rho b) else a) x = dot a x + rho * dot b x := by
    intro k a b x hab h
    split
    · exact dot_ad rho _ _ _ hab
    · rw [h.resolve_left (by omega)]; ring
  rw [gate 5 _ _ _ (by rw [h1.sa, h2.sa]) (ha.imp_right (·.1)), gate 5 _ _ _ (by rw [h1.ea, h2.ea]) (ha.imp_right (·.2)),
    gate 7 _ _ _ (by rw [h1.sj, h2.sj]) (hj.imp_right (·.1)), gate 7 _ _ _ (by rw [h1.ej, h2.ej]) (hj.imp_right (·.2))]
  ring

theorem gshape_addWp (n d : Nat) (g : GradsND K) (gq : List (Vec K)) (hn : 1 ≤ n) (hg : GShape n d g)
    (hq : gq.length = n + 1) (hqr : ∀ r ∈ gq, r.length = d) : GShape n d (addWp n g gq) :=
  { hg with
    inner := by simp only [addWp, List.length_zipWith, List.length_take, List.length_drop, hg.inner, hq]; omega
    rows := by
      rw [pts_addWp n g gq hn hg.inner hq]
      exact (shape_blockAdd hg.pts_shape ⟨by omega, hqr⟩).2 }

theorem ad_length (rho : K) (d : Nat) (a b : Vec K) (ha : a.length = d) (hb : b.length = d) :
    (vadd a (vscale rho b)).length = d := by
  rw [vadd_length _ _ (by simp [vscale, ha, hb]), ha]

theorem gate_length (rho : K) (o : Order) (k d : Nat) (a b : Vec K) (ha : a.length = d) (hb : b.length = d) :
    (if o.degree ≥ k then vadd a (vscale rho b) else a).length = d := by
  split
  exacts [ad_length rho d a b ha hb, ha]

theorem gshape_addEnergy (rho : K) (o : Order) (n d : Nat) (g1 eg : GradsND K) (h1 : GShape n d g1) (h2 : GShape n d eg) :
    GShape n d (addEnergy rho o g1 eg) where
  inner := by simp only [addEnergy, List.length_zipWith, h1.inner, h2.inner]; omega
  rows := by
    rw [pts_addEnergy rho o g1 eg (by rw [h1.inner, h2.inner])]
    exact (shape_blockAdd h1.pts_shape (shape_blockScale rho h2.pts_shape)).2
  times := by simp [addEnergy, h1.times, h2.times]
  sv := ad_length rho d _ _ h1.sv h2.sv
  sa := gate_length rho o 5 d _ _ h1.sa h2.sa
  sj := gate_length rho o 7 d _ _ h1.sj h2.sj
  ev := ad_length rho d _ _ h1.ev h2.ev
  ea := gate_length rho o 5 d _ _ h1.ea h2.ea
  ej := gate_length rho o 7 d _ _ h1.ej h2.ej

end lin

section shapes
variable {K : Type} [Field K]

theorem coeffs_shapeD (o : Order) (d : Nat) (hs : List (Dual K)) (P : List (Vec (Dual K))) (t0 : Dual K) (bc : BC (Dual K)) :
    ∀ b ∈ (buildND o d hs P t0 bc).coeffs, ShapeD o.coeffNum d b := by
  intro b hb
  rw [buildND_coeffs] at hb
  obtain ⟨i, _, rfl⟩ := List.mem_map.mp hb
  refine ⟨by simp, fun r hr => ?_⟩
  obtain ⟨k, _, rfl⟩ := List.mem_map.mp hr
  simp

theorem gshape_ofCols (n d : Nat) (c : Nat → ColG K) (hT : ∀ j < d, n ≤ (c j).2.1.length) : GShape n d (ofCols n d c) := by
  refine ⟨?_, ?_, ofCols_times_length n d c hT, ?_, ?_, ?_, ?_, ?_, ?_⟩ <;>
    simp only [pts, ofCols, List.forall_mem_cons, List.forall_mem_append, List.forall_mem_map, List.length_map,
      List.length_range, implies_true, List.not_mem_nil, false_imp_iff, and_self]

theorem gshape_propagateND (o : Order) (d : Nat) (hs : List K) (P : List (Vec K)) (bc : BC K) (gC : List (List (Vec K)))
    (gT : List K) (hne : hs ≠ []) (hP : P.length = hs.length + 1) (hgT : gT.length = hs.length) :
    GShape hs.length d (propagateND o d hs P bc gC gT) := by
  have hT := fun j (_ : j < d) => (propCol_times_length o hs P bc gC j hne hP).ge
  rw [propagateND_eq]
  exact { gshape_ofCols hs.length d _ hT with
    times := by rw [zipAdd_length, ofCols_times_length _ _ _ hT, hgT, Nat.min_self] }

theorem gshape_energyGrad (o : Order) (d : Nat) (hs : List K) (P : List (Vec K)) (t0 : K) (bc : BC K)
    (hne : hs ≠ []) (hP : P.length = hs.length + 1) :
    GShape hs.length d (buildND o d hs P t0 bc).energyGrad := by
  have hlen := fun j => colOf_shape o hs P bc j hP
  rw [energyGrad_eq _ _ _ _ _ _ (List.length_pos_iff.mpr hne) (fun j => (hlen j).2.2.1)]
  exact gshape_ofCols _ _ _ (fun j _ => (hlen j).2.2.2.ge)

end shapes

section re
variable {K : Type} [Field K]

theorem getD2_re (l : List (List (Dual K))) (i k : Nat) :
    (((l.map (·.map Dual.re)).getD i []).getD k (lit 0)) = ((l.getD i []).getD k (lit 0)).re := by
  rw [getD_map' (·.map Dual.re) l i [] [] rfl]; exact getD_map' _ _ _ _ _ rfl

theorem colOf_coeffs_re (o : Order) (hs : List (Dual K)) (P : List (Vec (Dual K))) (bc : BC (Dual K)) (j : Nat) :
    (colOf o hs P bc j).coeffs.map (·.map Dual.re) = (colOf o (hs.map Dual.re) (P.map vre) (bcRe bc) j).coeffs := by
  -- listing a coefficient record commutes with the real part, so this is `build_re` of the column's order
  have key : ∀ {β γ : Type} {toL : β → List (Dual K)} {toL' : γ → List K} {re : β → γ} {cs : List β} {cs' : List γ},
      cs.map re = cs' → (∀ c, (toL c).map Dual.re = toL' (re c)) → (cs.map toL).map (·.map Dual.re) = cs'.map toL' := by
    intro β γ toL toL' re cs cs' e h
    rw [← e, List.map_map, List.map_map]
    exact List.map_congr_left (fun c _ => h c)
  cases o <;> simp only [colOf, colCubic, colQuintic, colSeptic, bcRe, getC_vre, col_re]
  · exact key (CubicEG.build_re ..) (fun _ => rfl)
  · exact key (HS.build_re (o := .quintic) hs _ _ _) (fun _ => rfl)
  · exact key (HS.build_re (o := .septic) hs _ _ _) (fun _ => rfl)

variable [LinearOrder K] [IsStrictOrderedRing K]

theorem coeffs_re (o : Order) (d : Nat) (hs : List (Dual K)) (P : List (Vec (Dual K))) (t0 : Dual K) (t0' : K)
    (bc : BC (Dual K)) (hpos : ∀ h ∈ hs, 0 < h.re) (hne : hs ≠ []) (hP : P.length = hs.length + 1) :
    (buildND o d hs P t0 bc).coeffs.map (·.map vre)
      = (buildND o d (hs.map Dual.re) (P.map vre) t0' (bcRe bc)).coeffs := by
  -- entry by entry: the real part of an entry of column `j` is that entry of the real column
  simp only [buildND_coeffs, List.map_map, List.length_map, Function.comp_def, vre, ← colOf_coeffs_re, getD2_re]

end re

section main
variable {K : Type} [Field K] [LinearOrder K] [IsStrictOrderedRing K] [FloorRing K]

/-- comparisons on dual numbers look at the real part (the model's `dualNumOrd`), with the theorems' `Num` instance -/
@[reducible] noncomputable instance (priority := high) ordNumDual : NumOrd (Dual K) :=
  { toNum := drNum, lt := fun a b => decide (a.re < b.re), le := fun a b => decide (a.re ≤ b.re),
    floor := fun a => Int.floor a.re }

/-- instance coherence: the model's `NumOrd (Dual K)` is this instance -/
theorem dualNumOrd_eq : (@dualNumOrd K ordNum : NumOrd (Dual K)) = ordNumDual := by
  have h := @dualNum_eq K _
  unfold dualNumOrd ordNumDual
  congr

def dcRe (dc : Decoded (Dual K)) : Decoded K := ⟨dc.times.map Dual.re, dc.waypoints.map vre, bcRe dc.bc⟩

/-- the documented protocol of the three cost functors, at the decoded point -/
structure CostsOK (n d : Nat) (costsD : Costs (Dual K)) (costsR : Costs K) (dc : Decoded (Dual K)) : Prop where
  run : RunOK d costsD.run costsR.run
  time_du : (costsD.time dc.times).1.du = dot (costsR.time (dc.times.map Dual.re)).2 (dc.times.map Dual.du)
  time_len : (costsR.time (dc.times.map Dual.re)).2.length = n
  wp : match costsD.waypoints, costsR.waypoints with
       | none, none => True
       | some wD, some wR =>
           (wD dc.waypoints).1.du = blockDot (wR (dc.waypoints.map vre)).2 (dc.waypoints.map vdu)
           ∧ (wR (dc.waypoints.map vre)).2.length = n + 1 ∧ ∀ r ∈ (wR (dc.waypoints.map vre)).2, r.length = d
       | _, _ => False

/-- time cost + integral cost: the dual part of `cost1` is the pairing with what `propagateGrad` returns -/
theorem cost1_dual (o : Order) (d n steps : Nat) (t0 : Dual K) (dc : Decoded (Dual K)) (costsD : Costs (Dual K))
    (costsR : Costs K) (ht0 : t0.du = 0) (hT : dc.times.length = n) (hn : n ≠ 0) (hW : dc.waypoints.length = n + 1)
    (hpos : ∀ h ∈ dc.times, 0 < h.re) (hc : CostsOK n d costsD costsR dc) :
    (cost1 o d n steps t0 dc costsD).du
      = ndPair (g0 o d n steps t0.re (dcRe dc) costsR) (dc.waypoints.map vdu) (dc.times.map Dual.du) (bcDu dc.bc)
    ∧ GShape n d (g0 o d n steps t0.re (dcRe dc) costsR) := by
  have hne : dc.times ≠ [] := by
    intro h; rw [h] at hT; exact hn hT.symm
  have hP : dc.waypoints.length = dc.times.length + 1 := by rw [hW, hT]
  -- the accumulators of both runs are those of `integral_cost_dual`
  have haccR : segAccs o d n steps t0.re (dcRe dc) costsR
      = intAcc o d steps costsR.run 0 (dc.times.map Dual.re) (segStarts t0.re (dc.times.map Dual.re))
          ((buildND o d dc.times dc.waypoints t0 dc.bc).coeffs.map (·.map vre)) := by
    rw [segAccs_eq _ _ _ _ _ _ _ (by simp [dcRe, hT]), coeffs_re o d dc.times dc.waypoints t0 t0.re dc.bc hpos hne hP]
    rfl
  obtain ⟨_, hdu⟩ := integral_cost_dual o d steps costsD.run costsR.run hc.run t0 dc.times
    (buildND o d dc.times dc.waypoints t0 dc.bc).coeffs (coeffs_length ..) (coeffs_shapeD _ _ _ _ _ _)
  simp only [] at hdu
  rw [← segAccs_eq o d n steps t0 dc costsD hT, ← haccR, ht0, mul_zero, add_zero] at hdu
  have hlen : (segAccs o d n steps t0.re (dcRe dc) costsR).length = n := by simp [segAccs]
  have htl : (costsR.time (dcRe dc).times).2.length = n := hc.time_len
  have hgdT2len : (gdT2 o d n steps t0.re (dcRe dc) costsR).length = dc.times.length := by simp [gdT2, htl, hlen, hT]
  have hg0 : g0 o d n steps t0.re (dcRe dc) costsR
      = propagateND o d (dc.times.map Dual.re) (dc.waypoints.map vre) (bcRe dc.bc) _ _ := rfl
  rw [hg0]
  refine ⟨?_, ?_⟩
  · have e0 : (lit 0 + (costsD.time dc.times).1 : Dual K).du = (costsD.time dc.times).1.du := by dual_proj; ring
    rw [← propagateND_adjoint o d dc.times dc.waypoints t0 dc.bc _ _ hpos hne hP hgdT2len, gdT2,
      dot_gdT n _ _ _ _ htl (by simp [hlen]) (by simp [hlen]), cost1,
      foldl_add_du, List.map_map, e0, hc.time_du,
      show ST.sum ((segAccs o d n steps t0 dc costsD).map (Dual.du ∘ fun a => a.cost)) = _ from hdu]
    simp only [dcRe]
    ring
  · have := gshape_propagateND o d (dc.times.map Dual.re) (dc.waypoints.map vre) (bcRe dc.bc)
      ((segAccs o d n steps t0.re (dcRe dc) costsR).map (·.gdC)) (gdT2 o d n steps t0.re (dcRe dc) costsR)
      (by simpa using hne) (by simp [hP]) (by simp [hgdT2len])
    simpa [hT] using this

/-- the same after the waypoint-cost stage -/
theorem wpStage_dual (o : Order) (d n steps : Nat) (t0 : Dual K) (dc : Decoded (Dual K)) (costsD : Costs (Dual K))
    (costsR : Costs K) (ht0 : t0.du = 0) (hT : dc.times.length = n) (hn : n ≠ 0) (hW : dc.waypoints.length = n + 1)
    (hpos : ∀ h ∈ dc.times, 0 < h.re) (hc : CostsOK n d costsD costsR dc) :
    (wpStage o d n steps t0 dc costsD).1.du
      = ndPair (wpStage o d n steps t0.re (dcRe dc) costsR).2 (dc.waypoints.map vdu) (dc.times.map Dual.du) (bcDu dc.bc)
    ∧ GShape n d (wpStage o d n steps t0.re (dcRe dc) costsR).2 := by
  obtain ⟨h1, hsh0⟩ := cost1_dual o d n steps t0 dc costsD costsR ht0 hT hn hW hpos hc
  have hn' : 1 ≤ n := Nat.one_le_iff_ne_zero.mpr hn
  have hw := hc.wp
  have hw' : (dcRe dc).waypoints = dc.waypoints.map vre := rfl
  unfold wpStage
  split at hw
  · rename_i hwD hwR
    simp only [hwD, hwR]
    exact ⟨h1, hsh0⟩
  · rename_i wD wR hwD hwR
    obtain ⟨w1, w2, w3⟩ := hw
    simp only [hwD, hwR, hw']
    refine ⟨?_, gshape_addWp n d _ _ hn' hsh0 w2 w3⟩
    rw [ndPair_addWp n d _ _ _ _ _ hn' hsh0 w2 w3, ← h1, ← w1]
    rfl
  · exact hw.elim

/-- boundary blocks an order does not have carry a zero analytic energy gradient -/
theorem energyGrad_gate (o : Order) (d : Nat) (hs : List K) (P : List (Vec K)) (t0 : K) (bc dbc : BC K) :
    (5 ≤ o.degree ∨ (dot (buildND o d hs P t0 bc).energyGrad.start.a dbc.a0 = 0
        ∧ dot (buildND o d hs P t0 bc).energyGrad.fin.a dbc.an = 0))
    ∧ (7 ≤ o.degree ∨ (dot (buildND o d hs P t0 bc).energyGrad.start.j dbc.j0 = 0
        ∧ dot (buildND o d hs P t0 bc).energyGrad.fin.j dbc.jn = 0)) := by
  -- an entry of `gbStart` / `gbEnd` that is the literal zero in every column makes a zero vector
  have z : ∀ (f : Col K → List K) (k : Nat) (x : Vec K), (∀ j, (f (colOf o hs P bc j)).getD k (lit 0) = lit 0) →
      dot (((List.range d).map (colOf o hs P bc)).map (fun c => (f c).getD k (lit 0))) x = 0 := by
    intro f k x h
    rw [List.map_map, show (fun c : Col K => (f c).getD k (lit 0)) ∘ colOf o hs P bc = fun _ => (0 : K) from
      funext fun j => (h j).trans Nat.cast_zero, List.map_const', dot_replicate_zero]
  cases o with
  | cubic =>
    exact ⟨Or.inr ⟨z (·.gbStart) 2 _ (fun _ => rfl), z (·.gbEnd) 2 _ (fun _ => rfl)⟩,
      Or.inr ⟨z (·.gbStart) 3 _ (fun _ => rfl), z (·.gbEnd) 3 _ (fun _ => rfl)⟩⟩
  | quintic =>
    exact ⟨Or.inl (by simp [Order.degree]), Or.inr ⟨z (·.gbStart) 3 _ (fun _ => rfl), z (·.gbEnd) 3 _ (fun _ => rfl)⟩⟩
  | septic => exact ⟨Or.inl (by simp [Order.degree]), Or.inl (by simp [Order.degree])⟩

/-- **C07 (decoded quantities)**: the dual part of the cost `evaluate` returns is the pairing of the gradient record it
computes with the tangent of waypoints, durations and boundary states — positive decoded durations, `ρ` and the start time
constants; every order, N, D, quadrature step count, every cost-functor triple following the protocol `CostsOK` -/
theorem evalCore_dual (cD : Config (Dual K)) (cR : Config K) (dc : Decoded (Dual K)) (costsD : Costs (Dual K))
    (costsR : Costs K) (ho : cR.order = cD.order) (hd : cR.dim = cD.dim) (hn : cR.n = cD.n) (hst : cR.steps = cD.steps)
    (hrho : cD.rho.re = cR.rho) (hrho' : cD.rho.du = 0)
    (ht0 : cD.startTime.re = cR.startTime) (ht0' : cD.startTime.du = 0)
    (hT : dc.times.length = cD.n) (hn1 : cD.n ≠ 0) (hW : dc.waypoints.length = cD.n + 1)
    (hpos : ∀ h ∈ dc.times, 0 < h.re) (hc : CostsOK cD.n cD.dim costsD costsR dc) :
    (evalCore cD dc costsD).cost.du
      = ndPair (evalCore cR (dcRe dc) costsR).g (dc.waypoints.map vdu) (dc.times.map Dual.du) (bcDu dc.bc)
    ∧ GShape cD.n cD.dim (evalCore cR (dcRe dc) costsR).g := by
  have hne : dc.times ≠ [] := by
    intro h; rw [h] at hT; exact hn1 hT.symm
  have hP : dc.waypoints.length = dc.times.length + 1 := by rw [hW, hT]
  obtain ⟨e3, e4⟩ := wpStage_dual cD.order cD.dim cD.n cD.steps cD.startTime dc costsD costsR ht0' hT hn1 hW hpos hc
  obtain ⟨pD1, _⟩ := evalCore_parts cD dc costsD
  obtain ⟨_, pR2⟩ := evalCore_parts cR (dcRe dc) costsR
  rw [pD1, pR2, ho, hd, hn, hst, ← ht0]
  set cgR := (wpStage cD.order cD.dim cD.n cD.steps cD.startTime.re (dcRe dc) costsR).2
  split
  · -- energy term
    rename_i h
    have hR : NumOrd.lt (lit 0) cR.rho = true := by rw [← hrho]; exact h
    rw [if_pos hR]
    have hE := energyND_grad cD.order cD.dim dc.times dc.waypoints cD.startTime cD.startTime.re dc.bc hpos hne hP
    have hshE := gshape_energyGrad cD.order cD.dim (dc.times.map Dual.re) (dc.waypoints.map vre) cD.startTime.re
      (bcRe dc.bc) (by simpa using hne) (by simp [hP])
    simp only [List.length_map, hT] at hshE
    obtain ⟨ga, gj⟩ := energyGrad_gate cD.order cD.dim (dc.times.map Dual.re) (dc.waypoints.map vre) cD.startTime.re
      (bcRe dc.bc) (bcDu dc.bc)
    simp only [dcRe]
    refine ⟨?_, gshape_addEnergy cR.rho cD.order cD.n cD.dim cgR _ e4 hshE⟩
    rw [ndPair_addEnergy cR.rho cD.order cD.n cD.dim cgR _ _ _ _ e4 hshE (by simp [hT]) ga gj, ← hE, ← e3]
    rw [Dual.add_du, Dual.mul_du, hrho, hrho']
    ring
  · rename_i h
    have hR : ¬ (NumOrd.lt (lit 0) cR.rho = true) := by rw [← hrho]; exact h
    rw [if_neg hR]
    exact ⟨e3, e4⟩

end main

end EvalCore
