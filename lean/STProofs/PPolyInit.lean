import STModel
import Mathlib.Tactic.Linarith
/-!
# What `initializeInternal` does, once

`PPoly.init` uses no arithmetic at all, so these facts hold for every scalar type.  It looks at the old object only
through `dim` and `fixedOrder` (`init_eq_empty_init`, by `rfl`), and it either installs the new data or leaves the
empty object, according to `InitOK` (`init_eq`).  The cache invariant after an update, `init_sameData` and
`ppoly_init_iff` are read off these two; `init_flatMap` is the accepted case in the form `initializePPoly` and
`derivative(k)` use it: one block of rows per piece.
-/
namespace ST.PPoly
variable {K : Type}

/-- the inputs `initializeInternal` accepts -/
def InitOK (fo : Option Nat) (bps : List K) (rows : List (Vec K)) (nc : Int) : Prop :=
  2 ≤ bps.length ∧ (rows.length : Int) = ((bps.length - 1 : Nat) : Int) * nc ∧
    ∀ o, fo = some o → 0 < nc ∧ nc ≤ (o : Int)

/-- a successfully initialised object: one block of `nc` coefficient rows per piece, both caches cleared -/
def fresh (dim : Nat) (fo : Option Nat) (bps : List K) (blocks : List (List (Vec K))) (nc : Nat) : PPoly K :=
  { dim := dim, fixedOrder := fo, breakpoints := bps, coeffs := blocks, numSegments := bps.length - 1, numCoeffs := nc,
    initialized := true, derivCoeffs := [], derivReady := false, factorTable := [], factorReady := false }

theorem init_eq_empty_init (p : PPoly K) (bps : List K) (rows : List (Vec K)) (nc : Int) :
    p.init bps rows nc = (empty p.dim p.fixedOrder).init bps rows nc := rfl

theorem init_eq (p : PPoly K) (bps : List K) (rows : List (Vec K)) (nc : Int) :
    (InitOK p.fixedOrder bps rows nc ∧
      p.init bps rows nc = fresh p.dim p.fixedOrder bps (groupRows (bps.length - 1) nc.toNat rows) nc.toNat) ∨
    (¬ InitOK p.fixedOrder bps rows nc ∧ p.init bps rows nc = empty p.dim p.fixedOrder) := by
  unfold init InitOK
  dsimp only
  split_ifs with h1 h2 h3
  · exact .inr ⟨fun h => by omega, rfl⟩
  · exact .inr ⟨fun h => h2 h.2.1, rfl⟩
  · refine .inr ⟨fun h => ?_, rfl⟩
    split at h3
    · rename_i o ho
      have := h.2.2 o ho
      simp at h3; omega
    · simp at h3
  · refine .inl ⟨⟨by omega, not_not.1 h2, fun o ho => ?_⟩, rfl⟩
    simp [ho] at h3
    omega

theorem groupRows_flatMap {β : Type} (l : List β) (f : β → List (Vec K)) (m : Nat) (h : ∀ x ∈ l, (f x).length = m) :
    groupRows l.length m (l.flatMap f) = l.map f ∧ (l.flatMap f).length = l.length * m := by
  induction l with
  | nil => simp [groupRows]
  | cons a l ih =>
    have ha := h a (by simp)
    obtain ⟨ih1, ih2⟩ := ih (fun x hx => h x (by simp [hx]))
    refine ⟨?_, by rw [List.flatMap_cons, List.length_append, ha, ih2, List.length_cons, Nat.succ_mul, Nat.add_comm]⟩
    rw [List.length_cons, groupRows, List.flatMap_cons, List.take_append_of_le_length ha.ge, List.take_of_length_le ha.le,
      List.drop_append_of_le_length ha.ge, List.drop_of_length_le ha.le, List.nil_append, ih1, List.map_cons]

/-- **updating with one block of `nc` rows per piece installs those blocks** (`initializePPoly`, `derivative(k)`) -/
theorem init_flatMap {β : Type} (dim : Nat) (fo : Option Nat) (bps : List K) (l : List β) (f : β → List (Vec K)) (nc : Nat)
    (hb : bps.length = l.length + 1) (hl : l ≠ []) (hf : ∀ x ∈ l, (f x).length = nc)
    (hfo : ∀ o, fo = some o → 1 ≤ nc ∧ nc ≤ o) :
    (empty dim fo).init bps (l.flatMap f) (nc : Int) = fresh dim fo bps (l.map f) nc := by
  obtain ⟨hg, hlen⟩ := groupRows_flatMap l f nc hf
  have := List.length_pos_iff.mpr hl
  rcases init_eq (empty dim fo) bps (l.flatMap f) (nc : Int) with ⟨_, h⟩ | ⟨hno, _⟩
  · rw [h, hb, Nat.add_sub_cancel, Int.toNat_natCast, hg]; rfl
  · exact absurd ⟨by omega, by rw [hlen, hb]; push_cast; rfl, fun o ho => by have := hfo o ho; omega⟩ hno

end ST.PPoly
