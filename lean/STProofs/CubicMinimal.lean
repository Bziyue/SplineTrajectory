import STProofs.EnergyIntegral
import STProofs.CubicKKT
import STProofs.MinimalCore
/-!
# The cubic spline is *the* minimum-acceleration interpolant (the variational statement of C02, every N)

For every competitor `g` with a continuous second derivative that passes through the same waypoints at the same knot
times with the same boundary velocities,

    reported energy of the built spline  ≤  ∫ (g'')².

Proof: per segment, `∫ (g''² − s''²) ≥ 2 ∫ s''·(g'' − s'') = 2 [F]₀ʰ` with
`F = s''·(g' − s') − s'''·(g − s)` (`MinCore.seg_ineq` at `s = 2`; `s'''' = 0`); at a knot `g − s` vanishes, so `F` is
the knot acceleration times `g' − s'` (`F_knot`); these terms telescope along the path of knot states (`min_path`,
`cubic_build_path`) and vanish at both ends because the boundary velocities agree.
-/
open ST ST.Cubic CubicEG intervalIntegral

namespace CubicMin

/-- boundary functional of one piece at local time `τ` of the segment starting at global time `a` -/
noncomputable def F (c : C4 ℝ) (g0 g1 : ℝ → ℝ) (a τ : ℝ) : ℝ :=
  ev2 c τ * (g1 (a + τ) - ev1 c τ) - 6 * c.c3 * (g0 (a + τ) - ev c τ)

theorem acc_eq_ev2 (c : C4 ℝ) (t : ℝ) : Cubic.acc c t = ev2 c t := rfl

/-- a competitor given by its derivative chain `g0' = g1`, `g1' = g2`, `g2` continuous -/
structure Comp (g0 g1 g2 : ℝ → ℝ) : Prop where
  d0 : ∀ t, HasDerivAt g0 (g1 t) t
  d1 : ∀ t, HasDerivAt g1 (g2 t) t
  c2 : Continuous g2

open MinCore in
/-- `F` and the acceleration in the terms of `MinCore.seg_ineq` (`s = 2`) -/
theorem F_eq (c : C4 ℝ) (g0 g1 g2 : ℝ → ℝ) (a τ : ℝ) :
    F c g0 g1 a τ = bdry (fun k => dv c.toList (2 + k)) (fun k t => [g0, g1, g2].getD k 0 (a + t) - dv c.toList k t) 2 τ
    ∧ Cubic.acc c τ = dv c.toList 2 τ := by
  simp only [bdry, dv, C4.toList, List.length_cons, List.length_nil, Finset.sum_range_succ, Finset.sum_range_zero,
    Function.iterate_succ_apply', Function.iterate_zero_apply, dc, List.getD_cons_succ, List.getD_cons_zero, F,
    Cubic.acc, ev, ev1, ev2]
  constructor <;> ring

open MinCore in
/-- **one segment**: `∫₀ʰ g''² − ∫₀ʰ s''² ≥ 2·(F(h) − F(0))` -/
theorem seg_ineq (c : C4 ℝ) (g0 g1 g2 : ℝ → ℝ) (hg : Comp g0 g1 g2) (a h : ℝ) (hh : 0 ≤ h) :
    2 * (F c g0 g1 a h - F c g0 g1 a 0)
      ≤ (∫ τ in (0:ℝ)..h, (g2 (a + τ)) ^ 2) - ∫ τ in (0:ℝ)..h, (Cubic.acc c τ) ^ 2 := by
  rw [funext fun τ => (F_eq c g0 g1 g2 a τ).1, funext fun τ => (F_eq c g0 g1 g2 a τ).2]
  exact MinCore.seg_ineq 2 (dv c.toList) _ (hasDerivAt_dv _)
    (fun k hk => by interval_cases k <;> [exact hg.d0; exact hg.d1]) hg.c2 (dv_of_le _ (le_refl 4)) a h hh

/-- the competitor passes through the waypoints at the knot times starting at `a` -/
def Thru (g0 : ℝ → ℝ) : ℝ → List ℝ → List ℝ → Prop
  | a, [], [p] => g0 a = p
  | a, h :: hs, p :: ps => g0 a = p ∧ Thru g0 (a + h) hs ps
  | _, _, _ => False

theorem thru_head (g0 : ℝ → ℝ) (a : ℝ) (hs : List ℝ) (p : ℝ) (ps : List ℝ) (h : Thru g0 a hs (p :: ps)) : g0 a = p := by
  cases hs with
  | nil => cases ps with
    | nil => exact h
    | cons _ _ => exact absurd h (by simp [Thru])
  | cons _ _ => exact h.1

/-- `Thru` from the indexed form `g tᵢ = Pᵢ` along the cumulative knot times -/
theorem thru_of_getD (g : ℝ → ℝ) (a : ℝ) (h P : List ℝ) (hP : P.length = h.length + 1)
    (hk : ∀ i, i ≤ h.length → g ((cumulative a h).getD i 0) = P.getD i 0) : Thru g a h P := by
  induction h generalizing a P with
  | nil =>
    match P, hP with
    | [p], _ => simpa [Thru, cumulative] using hk 0 (le_refl _)
  | cons x xs ih =>
    match P, hP with
    | p0 :: p1 :: ps, hP =>
      refine ⟨by simpa [cumulative] using hk 0 (Nat.zero_le _), ?_⟩
      apply ih (a + x) (p1 :: ps) (by simpa using hP)
      intro i hi
      have := hk (i + 1) (by simp only [List.length_cons]; omega)
      simpa [cumulative] using this

/-- `∫ g''²` summed segment by segment (local times) -/
noncomputable def energyG (g2 : ℝ → ℝ) : ℝ → List ℝ → ℝ
  | _, [] => 0
  | a, h :: hs => (∫ τ in (0:ℝ)..h, (g2 (a + τ)) ^ 2) + energyG g2 (a + h) hs

theorem energyG_cons (g2 : ℝ → ℝ) (a h : ℝ) (hs : List ℝ) :
    energyG g2 a (h :: hs) = (∫ τ in (0:ℝ)..h, (g2 (a + τ)) ^ 2) + energyG g2 (a + h) hs := rfl

theorem energyG_eq_integral (g2 : ℝ → ℝ) (hc : Continuous g2) (a : ℝ) (hs : List ℝ) :
    energyG g2 a hs = ∫ t in a..(a + hs.sum), (g2 t) ^ 2 := by
  induction hs generalizing a with
  | nil => simp [energyG]
  | cons h hs ih =>
    have h1 : ∫ τ in (0:ℝ)..h, (g2 (a + τ)) ^ 2 = ∫ t in a..(a + h), (g2 t) ^ 2 := by
      simpa using integral_comp_add_left (fun t => (g2 t) ^ 2) (a := (0:ℝ)) (b := h) a
    rw [energyG_cons, ih, h1, List.sum_cons, ← add_assoc]
    exact integral_add_adjacent_intervals ((hc.pow 2).intervalIntegrable _ _) ((hc.pow 2).intervalIntegrable _ _)

/-- at a knot, where the competitor meets the piece, `F` is the knot acceleration times the velocity gap -/
theorem F_knot (c : C4 ℝ) (g0 g1 : ℝ → ℝ) (a τ : ℝ) (h : g0 (a + τ) = ev c τ) :
    F c g0 g1 a τ = (St c τ).2.2 * (g1 (a + τ) - (St c τ).2.1) := by
  simp [F, St, h]

/-- along a path of knot states through the competitor's values, the energy gap is at least the difference of the knot
terms at its two ends: `seg_ineq` per piece, and the terms at the interior knots cancel -/
theorem min_path (g0 g1 g2 : ℝ → ℝ) (hg : Comp g0 g1 g2) (hs : List ℝ) (cs : List (C4 ℝ)) (a b : ℝ × ℝ × ℝ) (t : ℝ)
    (hpos : PosList hs) (hl : cs.length = hs.length) (hp : Path a (hs.zip cs) b)
    (hthru : Thru g0 t hs (knotsOf (hs.zip cs) b)) :
    2 * (b.2.2 * (g1 (t + hs.sum) - b.2.1) - a.2.2 * (g1 t - a.2.1)) ≤ energyG g2 t hs - Cubic.energyInt hs cs := by
  induction hs generalizing cs a t with
  | nil =>
    match cs, hl with
    | [], _ => cases hp; simp [energyG, Cubic.energyInt]
  | cons h hs ih =>
    match cs, hl with
    | c :: cs, hl =>
      rw [List.zip_cons_cons] at hp hthru
      obtain ⟨rfl, hp⟩ := hp
      rw [knotsOf_cons, ← knots_shift _ _ _ hp] at hthru
      have ih' := ih cs _ (t + h) hpos.2 (by simpa using hl) hp (by rw [← knots_shift _ _ _ hp]; exact hthru.2)
      have hseg := seg_ineq c g0 g1 g2 hg t h hpos.1.le
      rw [F_knot c g0 g1 t h (thru_head _ _ _ _ _ hthru.2), F_knot c g0 g1 t 0 (by simpa using hthru.1)] at hseg
      rw [energyG_cons, Cubic.energyInt_cons, List.sum_cons, ← add_assoc]
      simp only [add_zero] at hseg
      linarith

/-- **C02 (cubic): the built spline minimises ∫(g'')² among all competitors through the same data — every N** -/
theorem cubic_minimal (hs Ps : List ℝ) (v0 vn : ℝ) (hpos : PosList hs) (hne : hs ≠ []) (hP : Ps.length = hs.length + 1)
    (g0 g1 g2 : ℝ → ℝ) (hg : Comp g0 g1 g2) (t0 : ℝ) (hthru : Thru g0 t0 hs Ps)
    (hv0 : g1 t0 = v0) (hvn : g1 (t0 + hs.sum) = vn) :
    Cubic.energy hs (build hs Ps v0 vn) ≤ ∫ t in t0..(t0 + hs.sum), (g2 t) ^ 2 := by
  obtain ⟨a, b, hp, ha, hb, hk⟩ := cubic_build_path v0 vn hs Ps hpos hne hP
  have := min_path g0 g1 g2 hg hs _ a b t0 hpos (by simp [hP]) hp (by rw [← hk]; exact hthru)
  rw [ha, hb, hv0, hvn, sub_self, sub_self, mul_zero, mul_zero, sub_zero, mul_zero] at this
  rw [cubic_energy_total, ← energyG_eq_integral g2 hg.c2]
  linarith

end CubicMin
