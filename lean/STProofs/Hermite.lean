import STProofs.HermiteKit
import Mathlib.Tactic.Ring
import Mathlib.Tactic.FieldSimp
/-!
# Hermite closures of the quintic and septic pieces (C01 for orders 5 and 7, unconditionally)

Whatever values the interior knot derivatives take — in particular whatever the block elimination returns — the
piece built by `closeSeg` from the knot data `(k0, k1)` of its two ends starts at `P_i` with derivatives `k0`,
and ends at `P_{i+1}` with derivatives `k1`.  Hence along the whole spline: every waypoint is interpolated from
both sides, velocity/acceleration (and jerk for the septic) are continuous at every interior knot, and the first /
last knot carry exactly the supplied boundary state — for every N ≥ 1 and every non-zero duration.

The computations with the constants of the code are done for a piece of duration `1`, where all time powers are `1` and an
identity about one piece is a polynomial identity.  A piece of duration `h` is the unit piece for the rescaled knot states,
run at speed `1/h` (`closeSeg_unit`, from `closeSeg_timescale`), and whatever is read off a rescaled piece `tsC mu c` is,
up to a power of `mu`, read off `c` at the rescaled time (`q_ev_tsC` / `s_ev_tsC`); stated with `t / mu` on the right these
laws hold without any hypothesis on `mu`, and the one cancellation `h / h = 1` is left to the place where they are used.
-/
open ST

section quintic
variable {K : Type} [Field K]
open Quintic

def q_ev (c : C6 K) (t : K) : K := c.c0 + c.c1*t + c.c2*t^2 + c.c3*t^3 + c.c4*t^4 + c.c5*t^5
def q_ev1 (c : C6 K) (t : K) : K := c.c1 + 2*c.c2*t + 3*c.c3*t^2 + 4*c.c4*t^3 + 5*c.c5*t^4
def q_ev2 (c : C6 K) (t : K) : K := 2*c.c2 + 6*c.c3*t + 12*c.c4*t^2 + 20*c.c5*t^3
def q_ev3 (c : C6 K) (t : K) : K := 6*c.c3 + 24*c.c4*t + 60*c.c5*t^2
def q_ev4 (c : C6 K) (t : K) : K := 24*c.c4 + 120*c.c5*t

namespace QuinticSym

/-- the piece run at speed `1/mu` -/
def tsC (mu : K) (c : C6 K) : C6 K :=
  ⟨c.c0, c.c1 / mu, c.c2 / mu ^ 2, c.c3 / mu ^ 3, c.c4 / mu ^ 4, c.c5 / mu ^ 5⟩

theorem q_ev_tsC (mu : K) (c : C6 K) (t : K) :
    q_ev (tsC mu c) t = q_ev c (t / mu) ∧ q_ev1 (tsC mu c) t = q_ev1 c (t / mu) / mu ∧
    q_ev2 (tsC mu c) t = q_ev2 c (t / mu) / mu ^ 2 ∧ q_ev3 (tsC mu c) t = q_ev3 c (t / mu) / mu ^ 3 ∧
    q_ev4 (tsC mu c) t = q_ev4 c (t / mu) / mu ^ 4 := by
  simp only [q_ev, q_ev1, q_ev2, q_ev3, q_ev4, tsC]
  refine ⟨?_, ?_, ?_, ?_, ?_⟩ <;> ring

theorem exists_scaled (h : K) (hh : h ≠ 0) (k : V2 K) : ∃ k' : V2 K, k = ⟨k'.x / h, k'.y / h ^ 2⟩ :=
  ⟨⟨k.x * h, k.y * h ^ 2⟩, by cases k; simp [hh]⟩

variable [CharZero K]

theorem closeSeg_timescale (mu : K) (hm : mu ≠ 0) (h p0 dp : K) (k0 k1 : V2 K) :
    closeSeg ⟨mkTP (mu * h), p0, dp⟩ ⟨k0.x / mu, k0.y / mu ^ 2⟩ ⟨k1.x / mu, k1.y / mu ^ 2⟩
      = tsC mu (closeSeg ⟨mkTP h, p0, dp⟩ k0 k1) := by
  -- the duration itself (not its inverse powers) only occurs where the left knot state is carried to the right end
  have e1 : k0.x / mu * (mu * h) = k0.x * h := by field_simp
  have e2 : k0.y / mu ^ 2 * (1 / 2) * (mu * h * (mu * h)) = k0.y * (1 / 2) * (h * h) := by field_simp
  have e3 : 2 * (k0.y / mu ^ 2 * (1 / 2)) * (mu * h) = 2 * (k0.y * (1 / 2)) * h / mu := by field_simp
  simp only [closeSeg, mkTP_inv, tsC, lit_eq]
  push_cast
  simp only [e1, e2, e3]
  apply C6.ext' <;> (simp only []; try ring)

/-- **reduction to the unit segment**: a closure piece of duration `h` is the closure piece of duration `1` for the
rescaled knot states, run at speed `1/h` -/
theorem closeSeg_unit (h p0 dp : K) (k0 k1 : V2 K) (hh : h ≠ 0) :
    ∃ K0 K1 : V2 K, k0 = ⟨K0.x / h, K0.y / h ^ 2⟩ ∧ k1 = ⟨K1.x / h, K1.y / h ^ 2⟩ ∧
      closeSeg ⟨mkTP h, p0, dp⟩ k0 k1 = tsC h (closeSeg ⟨mkTP 1, p0, dp⟩ K0 K1) := by
  obtain ⟨K0, rfl⟩ := exists_scaled h hh k0
  obtain ⟨K1, rfl⟩ := exists_scaled h hh k1
  exact ⟨K0, K1, rfl, rfl, by simpa only [mul_one] using closeSeg_timescale h hh 1 p0 dp K0 K1⟩

end QuinticSym

variable [CharZero K]

theorem mkTP_fields (h : K) :
    (mkTP h).h = h ∧ (mkTP h).i1 = 1/h ∧ (mkTP h).i2 = 1/h * (1/h) ∧ (mkTP h).i3 = 1/h*(1/h)*(1/h) ∧
    (mkTP h).i4 = 1/h*(1/h)*(1/h)*(1/h) ∧ (mkTP h).i5 = 1/h*(1/h)*(1/h)*(1/h*(1/h)) ∧
    (mkTP h).i6 = 1/h*(1/h)*(1/h)*(1/h*(1/h)*(1/h)) := by
  simp only [mkTP, lit_eq, Nat.cast_one, and_self]

theorem quintic_closeSeg_unit (p0 dp : K) (k0 k1 : V2 K) :
    let c := closeSeg (⟨mkTP 1, p0, dp⟩ : Seg K) k0 k1
    q_ev c 0 = p0 ∧ q_ev1 c 0 = k0.x ∧ q_ev2 c 0 = k0.y ∧
    q_ev c 1 = p0 + dp ∧ q_ev1 c 1 = k1.x ∧ q_ev2 c 1 = k1.y := by
  simp only [closeSeg, mkTP_one, q_ev, q_ev1, q_ev2, lit_eq, one_pow, mul_one, zero_pow, ne_eq, OfNat.ofNat_ne_zero,
    not_false_eq_true, mul_zero, add_zero]
  push_cast
  refine ⟨trivial, trivial, ?_, ?_, ?_, ?_⟩ <;> ring

theorem quintic_closeSeg (h p0 dp : K) (k0 k1 : V2 K) (hh : h ≠ 0) :
    let c := closeSeg (⟨mkTP h, p0, dp⟩ : Seg K) k0 k1
    q_ev c 0 = p0 ∧ q_ev1 c 0 = k0.x ∧ q_ev2 c 0 = k0.y ∧
    q_ev c h = p0 + dp ∧ q_ev1 c h = k1.x ∧ q_ev2 c h = k1.y := by
  obtain ⟨K0, K1, rfl, rfl, e⟩ := QuinticSym.closeSeg_unit h p0 dp k0 k1 hh
  simp only [e, QuinticSym.q_ev_tsC, div_self hh, zero_div, quintic_closeSeg_unit p0 dp K0 K1, and_self]

/-- along the whole spline: interpolation on both sides and C¹, C² at the knots, for *any* knot-derivative list -/
def QuinticHermite : List K → List K → List (V2 K) → List (C6 K) → Prop
  | h :: hs, p0 :: p1 :: ps, k0 :: k1 :: ks, c :: cs =>
      q_ev c 0 = p0 ∧ q_ev1 c 0 = k0.x ∧ q_ev2 c 0 = k0.y ∧ q_ev c h = p1 ∧ q_ev1 c h = k1.x ∧ q_ev2 c h = k1.y ∧
      QuinticHermite hs (p1 :: ps) (k1 :: ks) cs
  | [], _, _, [] => True
  | _, _, _, _ => False

end quintic

section septic
variable {K : Type} [Field K]
open Septic

def s_ev (c : C8 K) (t : K) : K := c.c0 + c.c1*t + c.c2*t^2 + c.c3*t^3 + c.c4*t^4 + c.c5*t^5 + c.c6*t^6 + c.c7*t^7
def s_ev1 (c : C8 K) (t : K) : K := c.c1 + 2*c.c2*t + 3*c.c3*t^2 + 4*c.c4*t^3 + 5*c.c5*t^4 + 6*c.c6*t^5 + 7*c.c7*t^6
def s_ev2 (c : C8 K) (t : K) : K := 2*c.c2 + 6*c.c3*t + 12*c.c4*t^2 + 20*c.c5*t^3 + 30*c.c6*t^4 + 42*c.c7*t^5
def s_ev3 (c : C8 K) (t : K) : K := 6*c.c3 + 24*c.c4*t + 60*c.c5*t^2 + 120*c.c6*t^3 + 210*c.c7*t^4
def s_ev4 (c : C8 K) (t : K) : K := 24*c.c4 + 120*c.c5*t + 360*c.c6*t^2 + 840*c.c7*t^3
def s_ev5 (c : C8 K) (t : K) : K := 120*c.c5 + 720*c.c6*t + 2520*c.c7*t^2
def s_ev6 (c : C8 K) (t : K) : K := 720*c.c6 + 5040*c.c7*t

namespace SepticSym

/-- the piece run at speed `1/mu` -/
def tsC (mu : K) (c : C8 K) : C8 K :=
  ⟨c.c0, c.c1 / mu, c.c2 / mu ^ 2, c.c3 / mu ^ 3, c.c4 / mu ^ 4, c.c5 / mu ^ 5, c.c6 / mu ^ 6, c.c7 / mu ^ 7⟩

theorem s_ev_tsC (mu : K) (c : C8 K) (t : K) :
    s_ev (tsC mu c) t = s_ev c (t / mu) ∧ s_ev1 (tsC mu c) t = s_ev1 c (t / mu) / mu ∧
    s_ev2 (tsC mu c) t = s_ev2 c (t / mu) / mu ^ 2 ∧ s_ev3 (tsC mu c) t = s_ev3 c (t / mu) / mu ^ 3 ∧
    s_ev4 (tsC mu c) t = s_ev4 c (t / mu) / mu ^ 4 ∧ s_ev5 (tsC mu c) t = s_ev5 c (t / mu) / mu ^ 5 ∧
    s_ev6 (tsC mu c) t = s_ev6 c (t / mu) / mu ^ 6 := by
  simp only [s_ev, s_ev1, s_ev2, s_ev3, s_ev4, s_ev5, s_ev6, tsC]
  refine ⟨?_, ?_, ?_, ?_, ?_, ?_, ?_⟩ <;> ring

theorem exists_scaled (h : K) (hh : h ≠ 0) (k : V3 K) : ∃ k' : V3 K, k = ⟨k'.x / h, k'.y / h ^ 2, k'.z / h ^ 3⟩ :=
  ⟨⟨k.x * h, k.y * h ^ 2, k.z * h ^ 3⟩, by cases k; simp [hh]⟩

/-- the septic closure uses the inverse powers of the duration only (the quintic one also the duration itself): no `mu ≠ 0` -/
theorem closeSeg_timescale (mu h p0 dp : K) (k0 k1 : V3 K) :
    closeSeg ⟨mkTP (mu * h), p0, dp⟩ ⟨k0.x / mu, k0.y / mu ^ 2, k0.z / mu ^ 3⟩ ⟨k1.x / mu, k1.y / mu ^ 2, k1.z / mu ^ 3⟩
      = tsC mu (closeSeg ⟨mkTP h, p0, dp⟩ k0 k1) := by
  simp only [closeSeg, mkTP_inv, tsC, lit_eq]
  push_cast
  apply C8.ext' <;> (simp only []; try ring)

theorem closeSeg_unit (h p0 dp : K) (k0 k1 : V3 K) (hh : h ≠ 0) :
    ∃ K0 K1 : V3 K, k0 = ⟨K0.x / h, K0.y / h ^ 2, K0.z / h ^ 3⟩ ∧ k1 = ⟨K1.x / h, K1.y / h ^ 2, K1.z / h ^ 3⟩ ∧
      closeSeg ⟨mkTP h, p0, dp⟩ k0 k1 = tsC h (closeSeg ⟨mkTP 1, p0, dp⟩ K0 K1) := by
  obtain ⟨K0, rfl⟩ := exists_scaled h hh k0
  obtain ⟨K1, rfl⟩ := exists_scaled h hh k1
  exact ⟨K0, K1, rfl, rfl, by simpa only [mul_one] using closeSeg_timescale h 1 p0 dp K0 K1⟩

end SepticSym

variable [CharZero K]

theorem septic_closeSeg_unit (p0 dp : K) (k0 k1 : V3 K) :
    let c := closeSeg (⟨mkTP 1, p0, dp⟩ : Seg K) k0 k1
    s_ev c 0 = p0 ∧ s_ev1 c 0 = k0.x ∧ s_ev2 c 0 = k0.y ∧ s_ev3 c 0 = k0.z ∧
    s_ev c 1 = p0 + dp ∧ s_ev1 c 1 = k1.x ∧ s_ev2 c 1 = k1.y ∧ s_ev3 c 1 = k1.z := by
  simp only [closeSeg, mkTP_one, s_ev, s_ev1, s_ev2, s_ev3, lit_eq, one_pow, mul_one, zero_pow, ne_eq, OfNat.ofNat_ne_zero,
    not_false_eq_true, mul_zero, add_zero]
  push_cast
  refine ⟨trivial, trivial, ?_, ?_, ?_, ?_, ?_, ?_⟩ <;> ring

theorem septic_closeSeg (h p0 dp : K) (k0 k1 : V3 K) (hh : h ≠ 0) :
    let c := closeSeg (⟨mkTP h, p0, dp⟩ : Seg K) k0 k1
    s_ev c 0 = p0 ∧ s_ev1 c 0 = k0.x ∧ s_ev2 c 0 = k0.y ∧ s_ev3 c 0 = k0.z ∧
    s_ev c h = p0 + dp ∧ s_ev1 c h = k1.x ∧ s_ev2 c h = k1.y ∧ s_ev3 c h = k1.z := by
  obtain ⟨K0, K1, rfl, rfl, e⟩ := SepticSym.closeSeg_unit h p0 dp k0 k1 hh
  simp only [e, SepticSym.s_ev_tsC, div_self hh, zero_div, septic_closeSeg_unit p0 dp K0 K1, and_self]

def SepticHermite : List K → List K → List (V3 K) → List (C8 K) → Prop
  | h :: hs, p0 :: p1 :: ps, k0 :: k1 :: ks, c :: cs =>
      s_ev c 0 = p0 ∧ s_ev1 c 0 = k0.x ∧ s_ev2 c 0 = k0.y ∧ s_ev3 c 0 = k0.z ∧
      s_ev c h = p1 ∧ s_ev1 c h = k1.x ∧ s_ev2 c h = k1.y ∧ s_ev3 c h = k1.z ∧
      SepticHermite hs (p1 :: ps) (k1 :: ks) cs
  | [], _, _, [] => True
  | _, _, _, _ => False

end septic

namespace HS
variable {o : Deg} {K : Type} [Field K]

def ev : C o K → K → K := match o with | .quintic => q_ev | .septic => s_ev
/-- derivatives `1 … s−1` of a piece at local time `t`, as a block vector (the knot data it has to match) -/
def lo : C o K → K → V o K :=
  match o with
  | .quintic => fun c t => (⟨q_ev1 c t, q_ev2 c t⟩ : V2 K)
  | .septic => fun c t => (⟨s_ev1 c t, s_ev2 c t, s_ev3 c t⟩ : V3 K)
/-- along the whole spline: interpolation on both sides and C¹ … C^{s−1} at the knots, for *any* knot-derivative list -/
def Hermite : List K → List K → List (V o K) → List (C o K) → Prop :=
  match o with | .quintic => QuinticHermite | .septic => SepticHermite

theorem hermite_cons (h : K) (hs : List K) (p0 p1 : K) (ps : List K) (k0 k1 : V o K) (ks : List (V o K)) (c : C o K)
    (cs : List (C o K)) :
    Hermite (h :: hs) (p0 :: p1 :: ps) (k0 :: k1 :: ks) (c :: cs)
      ↔ ev c 0 = p0 ∧ lo c 0 = k0 ∧ ev c h = p1 ∧ lo c h = k1 ∧ Hermite hs (p1 :: ps) (k1 :: ks) cs := by
  -- per order the same conjunction, the components of `lo` listed one by one
  cases o
  · obtain ⟨x0, y0⟩ := k0; obtain ⟨x1, y1⟩ := k1
    show _ ∧ _ ∧ _ ∧ _ ∧ _ ∧ _ ∧ _ ↔ _ ∧ (⟨_, _⟩ : V2 K) = ⟨_, _⟩ ∧ _ ∧ (⟨_, _⟩ : V2 K) = ⟨_, _⟩ ∧ _
    simp only [V2.mk.injEq, and_assoc]
    exact Iff.rfl
  · obtain ⟨x0, y0, z0⟩ := k0; obtain ⟨x1, y1, z1⟩ := k1
    show _ ∧ _ ∧ _ ∧ _ ∧ _ ∧ _ ∧ _ ∧ _ ∧ _ ↔ _ ∧ (⟨_, _, _⟩ : V3 K) = ⟨_, _, _⟩ ∧ _ ∧ (⟨_, _, _⟩ : V3 K) = ⟨_, _, _⟩ ∧ _
    simp only [V3.mk.injEq, and_assoc]
    exact Iff.rfl
theorem hermite_nil (ps : List K) (ks : List (V o K)) : Hermite [] ps ks ([] : List (C o K)) := by cases o <;> trivial

theorem hermite_piece (hs Ps : List K) (ks : List (V o K)) (cs : List (C o K)) (h : Hermite hs Ps ks cs) (i : Nat)
    (hi : i < hs.length) (z : C o K) (zp : K) (zk : V o K) :
    ev (cs.getD i z) 0 = Ps.getD i zp ∧ lo (cs.getD i z) 0 = ks.getD i zk
    ∧ ev (cs.getD i z) (hs.getD i 0) = Ps.getD (i + 1) zp ∧ lo (cs.getD i z) (hs.getD i 0) = ks.getD (i + 1) zk := by
  induction hs generalizing Ps ks cs i with
  | nil => simp at hi
  | cons a hs ih =>
    match Ps, ks, cs, h with
    | [], _, _, h | [_], _, _, h | _ :: _ :: _, [], _, h | _ :: _ :: _, [_], _, h | _ :: _ :: _, _ :: _ :: _, [], h =>
      cases o <;> exact h.elim
    | p0 :: p1 :: ps, k0 :: k1 :: ks', c :: cs', h =>
      obtain ⟨e0, e1, e2, e3, hrest⟩ := (hermite_cons ..).mp h
      cases i with
      | zero => exact ⟨e0, e1, e2, e3⟩
      | succ i => simpa only [List.getD_cons_succ] using ih (p1 :: ps) (k1 :: ks') cs' hrest i (by simpa using hi)

variable [CharZero K]

theorem closeSeg_ends (h p0 p1 : K) (k0 k1 : V o K) (hh : h ≠ 0) :
    let c := closeSeg (Seg.mk (mkTP o h) p0 (p1 - p0)) k0 k1
    ev c 0 = p0 ∧ lo c 0 = k0 ∧ ev c h = p1 ∧ lo c h = k1 := by
  cases o
  · obtain ⟨a0, a1, a2, a3, a4, a5⟩ := quintic_closeSeg h p0 (p1 - p0) k0 k1 hh
    exact ⟨a0, V2.ext a1 a2, a3.trans (add_sub_cancel ..), V2.ext a4 a5⟩
  · obtain ⟨a0, a1, a2, a3, a4, a5, a6, a7⟩ := septic_closeSeg h p0 (p1 - p0) k0 k1 hh
    exact ⟨a0, V3.ext a1 a2 a3, a4.trans (add_sub_cancel ..), V3.ext a5 a6 a7⟩

theorem closure_hermite (hs Ps : List K) (ks : List (V o K)) (hne : ∀ h ∈ hs, h ≠ 0)
    (hP : Ps.length = hs.length + 1) (hk : ks.length = hs.length + 1) :
    Hermite hs Ps ks (closure (mkSegs o hs Ps) ks) := by
  induction hs generalizing Ps ks with
  | nil => simp [mkSegs_nil, closure_nil, hermite_nil]
  | cons h hs ih =>
    match Ps, ks, hP, hk with
    | p0 :: p1 :: Ps, k0 :: k1 :: ks, hP, hk =>
      obtain ⟨a0, a1, a2, a3⟩ := closeSeg_ends h p0 p1 k0 k1 (hne h (by simp))
      rw [mkSegs_cons, closure_cons, hermite_cons]
      exact ⟨a0, a1, a2, a3,
        ih (p1 :: Ps) (k1 :: ks) (fun x hx => hne x (by simp [hx])) (by simpa using hP) (by simpa using hk)⟩

/-- **C01** for both orders in one statement (`quintic_build_hermite`, `septic_build_hermite`) -/
theorem build_hermite (hs Ps : List K) (bL bR : V o K) (hne : ∀ h ∈ hs, h ≠ 0) (hP : Ps.length = hs.length + 1) :
    Hermite hs Ps (buildFull o hs Ps bL bR).knots (build o hs Ps bL bR) ∧
    (buildFull o hs Ps bL bR).knots.head? = some bL ∧ (buildFull o hs Ps bL bR).knots.getLast? = some bR := by
  rw [build_eq, buildFull_knots]
  refine ⟨?_, rfl, List.getLast?_concat⟩
  rcases hs with _ | ⟨h, hs⟩
  · rw [mkSegs_nil, closure_nil]; exact hermite_nil _ _
  · exact closure_hermite _ Ps _ hne hP (by simp [hP])

end HS

section
variable {K : Type} [Field K] [CharZero K]
open Quintic in
/-- **C01 (quintic)**: the built spline interpolates every waypoint from both sides, is C¹ and C² at every interior
knot, and its first / last knot carry the supplied boundary velocity and acceleration — every N ≥ 1, any non-zero durations
(`hin`, which the proof does not use, says `hs ≠ []`) -/
theorem quintic_build_hermite (hs Ps : List K) (bL bR : V2 K) (hne : ∀ h ∈ hs, h ≠ 0)
    (hP : Ps.length = hs.length + 1)
    (hin : (bback (bfwd none (rows bL bR (mkSegs hs Ps)))).length + 1 = hs.length) :
    QuinticHermite hs Ps (buildFull hs Ps bL bR).knots (build hs Ps bL bR) ∧
    (buildFull hs Ps bL bR).knots.head? = some bL ∧ (buildFull hs Ps bL bR).knots.getLast? = some bR :=
  HS.build_hermite (o := .quintic) hs Ps bL bR hne hP

open Septic in
/-- **C01 (septic)**: interpolation from both sides, C¹–C³ at every interior knot, boundary velocity / acceleration /
jerk at the first and last knot — every N ≥ 1, any non-zero durations (`hin` as in the quintic statement) -/
theorem septic_build_hermite (hs Ps : List K) (bL bR : V3 K) (hne : ∀ h ∈ hs, h ≠ 0)
    (hP : Ps.length = hs.length + 1)
    (hin : (bback (bfwd none (rows bL bR (mkSegs hs Ps)))).length + 1 = hs.length) :
    SepticHermite hs Ps (buildFull hs Ps bL bR).knots (build hs Ps bL bR) ∧
    (buildFull hs Ps bL bR).knots.head? = some bL ∧ (buildFull hs Ps bL bR).knots.getLast? = some bR :=
  HS.build_hermite (o := .septic) hs Ps bL bR hne hP
end
