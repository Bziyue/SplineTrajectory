import STProofs.Trajectory
import STProofs.CostDecomp
/-!
# C08 joined with C01/C03: what the optimizer samples is what the published trajectory evaluates to

The running cost receives `p, v, a, j, s` computed from the optimizer's own basis rows (`computeBasisFunctions`) times the
coefficient block of the segment.  These are, coordinate by coordinate, the derivatives of the same polynomial that
`getTrajectory().evaluate(t_global, m)` evaluates through `PPolyND`'s derivative tables: two independent tables of
constants in the code (basis rows vs. falling-factorial factors) that `sample_is_trajectory` ties together.
-/
open ST Traj

namespace SampleTraj

section
variable {K : Type} [Field K]

theorem dot_unit (d j : Nat) (hj : j < d) (v : Vec K) :
    dot ((List.range d).map (fun k => if k = j then (1 : K) else 0)) v = v.getD j 0 := by
  rw [dot_map_range]
  simp [ite_mul, Finset.sum_ite_eq', hj]

/-- row vector times block, coordinate by coordinate: `dot_rtb` at the unit vectors -/
theorem rtb_stack (d : Nat) (b : List K) (X : List (Vec K)) (hX : ∀ r ∈ X, r.length = d) :
    rowTimesBlock d b X = (List.range d).map (fun j => dot b (X.map (fun r => r.getD j 0))) := by
  have hl := QuadDual.rtb_length d b X hX
  apply List.ext_getElem
  · simp [hl]
  · intro j h1 _
    have e : (rowTimesBlock d b X)[j] = (rowTimesBlock d b X).getD j 0 := by
      simp [List.getD_eq_getElem?_getD, List.getElem?_eq_getElem h1]
    rw [hl] at h1
    rw [List.getElem_map, List.getElem_range, e, ← dot_unit d j h1, QuadDual.dot_rtb d _ b X hX]
    congr 1
    exact List.map_congr_left (fun r _ => dot_unit d j h1 r)

end

variable {K : Type} [Field K] [LinearOrder K] [IsStrictOrderedRing K] [FloorRing K]

/-- **what a quadrature node hands to the running cost** (position `m = 0`, velocity, acceleration, jerk, snap `m = 4`):
basis row `m` at local time `t` times the block of segment `i` is, coordinate by coordinate, the Horner value of the
`m`-th derivative list of that coordinate's polynomial -/
theorem sample_block (o : Order) (d : Nat) (hs : List K) (P : List (Vec K)) (t0 : K) (bc : BC K) (hne : hs ≠ [])
    (hP : P.length = hs.length + 1) (i : Nat) (hi : i < hs.length) (t : K) (m : Nat) (hm : m ≤ 4) :
    rowTimesBlock d ((basisRows o t).getD m []) ((buildND o d hs P t0 bc).coeffs.getD i [])
      = (List.range d).map (fun j => hornerS t (dRow o.coeffNum m ((colOf o hs P bc j).coeffs.getD i []))) := by
  rw [coeffs_getD o d hs P t0 bc i hi, rtb_stack d _ _ (by simp)]
  refine List.map_congr_left (fun j hj => ?_)
  rw [List.map_map, ← basis_dRow_gen o t m (by omega), ← range_getD_eq (colOf_row_length o hs P bc j hP hi)]
  congr 1
  refine List.map_congr_left (fun q _ => ?_)
  rw [Function.comp_apply, getD_map_range, if_pos (List.mem_range.mp hj)]

/-- **the optimizer samples the published trajectory**: for a node at local time `t` of segment `i` whose global time lies in
that segment's half-open interval (`specIdx = i`: every node except a segment's right end, and every node of the last
segment), the sampled position / velocity / acceleration / jerk / snap are `getTrajectory().evaluate(t_i + t, m)` — for
`m < coeffNum`: all five for the quintic and the septic, `m ≤ 3` for the cubic -/
theorem sample_is_trajectory (o : Order) (d : Nat) (hs : List K) (P : List (Vec K)) (t0 : K) (bc : BC K) (hne : hs ≠ [])
    (hpos : ∀ h ∈ hs, 0 < h) (hP : P.length = hs.length + 1) (i : Nat) (hi : i < hs.length) (t : K) (m : Nat) (hm : m ≤ 4)
    (hmc : m < o.coeffNum) (hseg : specIdx (cumulative t0 hs) ((cumulative t0 hs).getD i 0 + t) = i) :
    rowTimesBlock d ((basisRows o t).getD m []) ((buildND o d hs P t0 bc).coeffs.getD i [])
      = ((buildND o d hs P t0 bc).ppoly.evaluate ((cumulative t0 hs).getD i 0 + t) (m : Int)).2 := by
  rw [sample_block o d hs P t0 bc hne hP i hi t m hm, traj_eval_k o d hs P t0 bc hne hpos hP _ m hmc, hseg, add_sub_cancel_left]

end SampleTraj
