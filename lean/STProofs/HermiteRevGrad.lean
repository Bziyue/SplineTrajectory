import STProofs.HermiteRev
import STProofs.HermiteEnergyGrad
/-!
# C14 (quintic / septic): the analytic energy gradients of the time-reversed spline are the mirrored gradients

With the reversed data (`build_reverse`): the duration gradients and the inner-point gradients are the original ones in
reverse order; the boundary gradients swap start and end, the odd components (velocity, jerk) changing sign.  These hold
for the mirror image `(zipWith revC hs cs).reverse` of any list of pieces; only the last step puts the built spline in.
-/
open ST

namespace QuinticRev
open ST.Quintic QuinticAdj QuinticK
variable {K : Type} [Field K] [LinearOrder K] [IsStrictOrderedRing K]

/-- the duration gradient is a first integral along any piece (every piece is an extremal): same value from either end -/
theorem gradTime_rev (h : K) (c : C6 K) : gradTime (revC h c) = gradTime c := by
  simp only [gradTime, revC, q_ev, q_ev1, q_ev2, q_ev3, q_ev4, lit_eq]
  push_cast
  ring

/-- boundary gradient with the odd (velocity) component negated -/
def flipB (g : BGrad K) : BGrad K := ⟨g.p, -g.v, g.a⟩

/-- `getEnergyGradBoundary` reads the first piece `f`, the last piece `l` and the last duration `T`; in the mirror image
these are the mirrored `l`, the mirrored `f` and the first duration `T0` -/
theorem gradBoundary_rev (Ts Ts' : List K) (cs cs' : List (C6 K)) (f l : C6 K) (T0 T : K) (hf : cs.head? = some f)
    (hl : cs.getLast? = some l) (hT : Ts.getLast? = some T) (hf' : cs'.head? = some (revC T l))
    (hl' : cs'.getLast? = some (revC T0 f)) (hT' : Ts'.getLast? = some T0) :
    gradBoundary Ts' cs' = (flipB (gradBoundary Ts cs).2, flipB (gradBoundary Ts cs).1) := by
  simp only [gradBoundary, hf, hl, hT, hf', hl', hT', flipB, revC, q_ev, q_ev1, q_ev2, q_ev3, q_ev4, lit_eq, Prod.mk.injEq,
    BGrad.mk.injEq]
  push_cast
  refine ⟨⟨?_, ?_, ?_⟩, ⟨?_, ?_, ?_⟩⟩ <;> ring

end QuinticRev

namespace SepticRev
open ST.Septic SepticAdj SepticK
variable {K : Type} [Field K] [LinearOrder K] [IsStrictOrderedRing K]

/-- the duration gradient is a first integral along any piece (every piece is an extremal): same value from either end -/
theorem gradTime_rev (h : K) (c : C8 K) : gradTime (revC h c) = gradTime c := by
  simp only [gradTime, revC, s_ev, s_ev1, s_ev2, s_ev3, s_ev4, s_ev5, s_ev6, lit_eq]
  push_cast
  ring

/-- boundary gradient with the odd (velocity, jerk) components negated -/
def flipB (g : BGrad K) : BGrad K := ⟨g.p, -g.v, g.a, -g.j⟩

theorem gradBoundary_rev (Ts Ts' : List K) (cs cs' : List (C8 K)) (f l : C8 K) (T0 T : K) (hf : cs.head? = some f)
    (hl : cs.getLast? = some l) (hT : Ts.getLast? = some T) (hf' : cs'.head? = some (revC T l))
    (hl' : cs'.getLast? = some (revC T0 f)) (hT' : Ts'.getLast? = some T0) :
    gradBoundary Ts' cs' = (flipB (gradBoundary Ts cs).2, flipB (gradBoundary Ts cs).1) := by
  simp only [gradBoundary, hf, hl, hT, hf', hl', hT', flipB, revC, s_ev, s_ev1, s_ev2, s_ev3, s_ev4, s_ev5, s_ev6, lit_eq,
    Prod.mk.injEq, BGrad.mk.injEq]
  push_cast
  refine ⟨⟨?_, ?_, ?_, ?_⟩, ⟨?_, ?_, ?_, ?_⟩⟩ <;> ring

end SepticRev

namespace HS
variable {o : Deg} {K : Type} [Field K]

def flipB : BGrad o K → BGrad o K := match o with | .quintic => QuinticRev.flipB | .septic => SepticRev.flipB

theorem eP_revC (h : K) (c : C o K) : eP (revC h c) = ((eP c).2, (eP c).1) := by
  cases o <;> simp [eP, revC, QuinticRev.revC, SepticRev.revC]

theorem gradInner_snoc (l : List (C o K)) (a b : C o K) :
    gradInner (l ++ [a, b]) = gradInner (l ++ [a]) ++ [(eP a).2 + (eP b).1] := by
  induction l with
  | nil => simp [gradInner_cons, gradInner_single]
  | cons x l ih =>
    cases l with
    | nil => simp [gradInner_cons, gradInner_single]
    | cons y l =>
      simp only [List.cons_append, gradInner_cons] at ih ⊢
      rw [ih]

theorem gradInner_reverse (hs : List K) (cs : List (C o K)) (hl : cs.length = hs.length) :
    gradInner (List.zipWith revC hs cs).reverse = (gradInner cs).reverse := by
  induction hs generalizing cs with
  | nil => simp [gradInner_nil, List.eq_nil_of_length_eq_zero hl]
  | cons h hs ih =>
    match hs, cs, hl with
    | [], [c], _ => simp [gradInner_single]
    | h' :: hs, c :: c' :: cs, hl =>
      have ih' := ih (c' :: cs) (by simpa using hl)
      simp only [List.zipWith_cons_cons, List.reverse_cons, List.append_assoc, List.cons_append, List.nil_append,
        gradInner_cons] at ih' ⊢
      rw [gradInner_snoc, ih', eP_revC, eP_revC, add_comm]

variable [LinearOrder K] [IsStrictOrderedRing K]

theorem gradTime_rev (h : K) (c : C o K) : gradTime (revC h c) = gradTime c := by
  cases o; exacts [QuinticRev.gradTime_rev h c, SepticRev.gradTime_rev h c]
theorem energySeg_rev (h : K) (c : C o K) : energySeg h (revC h c) = energySeg h c := by
  cases o; exacts [QuinticRev.energySeg_rev h c, SepticRev.energySeg_rev h c]
theorem gradTimes_reverse (hs : List K) (cs : List (C o K)) (hl : cs.length = hs.length) :
    (List.zipWith revC hs cs).reverse.map gradTime = (cs.map gradTime).reverse := by
  rw [List.map_reverse]
  exact congrArg _ (List.ext_getElem (by simp [hl]) fun i _ _ => by simp [gradTime_rev])

theorem gradBoundary_reverse (hs : List K) (cs : List (C o K)) (hl : cs.length = hs.length) (hne : hs ≠ []) :
    gradBoundary hs.reverse (List.zipWith revC hs cs).reverse
      = (flipB (gradBoundary hs cs).2, flipB (gradBoundary hs cs).1) := by
  match hs, cs, hl, hne with
  | h :: hs, c :: cs, hl, _ =>
    obtain ⟨T, hT⟩ : ∃ T, (h :: hs).getLast? = some T := ⟨_, List.getLast?_eq_some_getLast (by simp)⟩
    obtain ⟨l, hL⟩ : ∃ l, (c :: cs).getLast? = some l := ⟨_, List.getLast?_eq_some_getLast (by simp)⟩
    have hf' : (List.zipWith revC (h :: hs) (c :: cs)).reverse.head? = some (revC T l) := by
      rw [List.reverse_zipWith hl.symm, List.head?_zipWith, List.head?_reverse, List.head?_reverse, hT, hL]
    have hl' : (List.zipWith revC (h :: hs) (c :: cs)).reverse.getLast? = some (revC h c) := by simp
    have hT' : (h :: hs).reverse.getLast? = some h := by simp
    cases o
    exacts [QuinticRev.gradBoundary_rev _ _ _ _ c _ h _ rfl hL hT hf' hl' hT',
      SepticRev.gradBoundary_rev _ _ _ _ c _ h _ rfl hL hT hf' hl' hT']

theorem energy_reverse (hs : List K) (cs : List (C o K)) (hl : cs.length = hs.length) :
    energy hs.reverse (List.zipWith revC hs cs).reverse = energy hs cs := by
  rw [energy_eq_sum, energy_eq_sum, ← List.reverse_zipWith (by simp [hl]), List.sum_reverse]
  exact congrArg _ (List.ext_getElem (by simp [hl]) fun i _ _ => by simp [energySeg_rev])

/-- the mirrored gradients for both orders in one statement: `build_reverse`, then the four facts about the mirror image of any
list of pieces -/
theorem energyGrads_reverse (hs Ps : List K) (bL bR : V o K) (hpos : ∀ h ∈ hs, 0 < h) (hne0 : hs ≠ [])
    (hP : Ps.length = hs.length + 1) :
    let cs := build o hs Ps bL bR
    let cs' := build o hs.reverse Ps.reverse (flipV bR) (flipV bL)
    cs'.map gradTime = (cs.map gradTime).reverse ∧ gradInner cs' = (gradInner cs).reverse ∧
    gradBoundary hs.reverse cs' = (flipB (gradBoundary hs cs).2, flipB (gradBoundary hs cs).1) ∧
    energy hs.reverse cs' = energy hs cs := by
  intro cs cs'
  have hrev : cs' = (List.zipWith revC hs cs).reverse := build_reverse hs Ps bL bR hpos hne0 hP
  have hl : cs.length = hs.length := build_length o hs Ps bL bR hP
  rw [hrev]
  exact ⟨gradTimes_reverse hs cs hl, gradInner_reverse hs cs hl, gradBoundary_reverse hs cs hl hne0,
    energy_reverse hs cs hl⟩

end HS

namespace QuinticRev
open ST.Quintic QuinticAdj QuinticK
variable {K : Type} [Field K] [LinearOrder K] [IsStrictOrderedRing K]

/-- **C14 (quintic): mirrored gradients** — the analytic energy gradients of the time-reversed spline are `getEnergyGradTimes`
and `getEnergyGradInnerPoints` in reverse order and `getEnergyGradBoundary` with start and end swapped, the velocity component
negated; the energy is the same — every N ≥ 1, positive durations -/
theorem energyGrads_reverse (hs Ps : List K) (bL bR : V2 K) (hpos : ∀ h ∈ hs, 0 < h) (hne0 : hs ≠ [])
    (hP : Ps.length = hs.length + 1) :
    let cs := build hs Ps bL bR
    let cs' := build hs.reverse Ps.reverse (flip bR) (flip bL)
    cs'.map gradTime = (cs.map gradTime).reverse ∧ gradInner cs' = (gradInner cs).reverse ∧
    gradBoundary hs.reverse cs' = (flipB (gradBoundary hs cs).2, flipB (gradBoundary hs cs).1) ∧
    energy hs.reverse cs' = energy hs cs :=
  HS.energyGrads_reverse (o := .quintic) hs Ps bL bR hpos hne0 hP

end QuinticRev

namespace SepticRev
open ST.Septic SepticAdj SepticK
variable {K : Type} [Field K] [LinearOrder K] [IsStrictOrderedRing K]

/-- **C14 (septic): mirrored gradients** — the statement of `QuinticRev.energyGrads_reverse`, the velocity and jerk components
of the boundary gradients negated -/
theorem energyGrads_reverse (hs Ps : List K) (bL bR : V3 K) (hpos : ∀ h ∈ hs, 0 < h) (hne0 : hs ≠ [])
    (hP : Ps.length = hs.length + 1) :
    let cs := build hs Ps bL bR
    let cs' := build hs.reverse Ps.reverse (flip bR) (flip bL)
    cs'.map gradTime = (cs.map gradTime).reverse ∧ gradInner cs' = (gradInner cs).reverse ∧
    gradBoundary hs.reverse cs' = (flipB (gradBoundary hs cs).2, flipB (gradBoundary hs cs).1) ∧
    energy hs.reverse cs' = energy hs cs :=
  HS.energyGrads_reverse (o := .septic) hs Ps bL bR hpos hne0 hP

end SepticRev
