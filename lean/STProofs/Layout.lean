import STModel
import Mathlib.Tactic.Ring
/-!
# Decision-vector layout (C09) and the layout cache under reconfiguration

Pure combinatorics over `Nat` and lists: valid for every flag set, every order, every N ≥ 1 and every
per-point unconstrained dimension function `udim`.
-/
open ST

/-- spatial variables contributed by the points `i, i+1, …, i+k-1` -/
def spatialCount (f : Flags) (n : Nat) (udim : Nat → Nat) : Nat → Nat → Nat
  | 0, _ => 0
  | k + 1, i => (if spatialOptimized f n i then udim i else 0) + spatialCount f n udim k (i + 1)

theorem layoutFrom_offset (f : Flags) (n : Nat) (udim : Nat → Nat) (fuel i off : Nat) :
    (layoutFrom f n udim fuel i off).2 = off + spatialCount f n udim fuel i := by
  induction fuel generalizing i off with
  | zero => simp [layoutFrom, spatialCount]
  | succ k ih =>
    simp only [layoutFrom, spatialCount]
    split
    · simp only [ih]; ring
    · simp only [ih]; simp

/-- every variable block of the layout: optimised point, in increasing index order, offsets = running sums -/
def LayoutOK (f : Flags) (n : Nat) (udim : Nat → Nat) : Nat → Nat → List LayoutVar → Prop
  | _, _, [] => True
  | lo, off, v :: vs =>
      lo ≤ v.point ∧ v.point ≤ n ∧ spatialOptimized f n v.point = true ∧ v.dof = udim v.point ∧
      v.offset = off + spatialCount f n udim (v.point - lo) lo ∧
      LayoutOK f n udim (v.point + 1) (v.offset + v.dof) vs

theorem layoutOK_shift (f : Flags) (n : Nat) (udim : Nat → Nat) (lo off : Nat) (vs : List LayoutVar)
    (hskip : spatialOptimized f n lo = false) (h : LayoutOK f n udim (lo + 1) off vs) : LayoutOK f n udim lo off vs := by
  cases vs with
  | nil => trivial
  | cons v vs =>
    obtain ⟨h1, h2, h3, h4, h5, h6⟩ := h
    refine ⟨by omega, h2, h3, h4, ?_, h6⟩
    have : v.point - lo = (v.point - (lo + 1)) + 1 := by omega
    simp [h5, this, spatialCount, hskip]

theorem layoutFrom_ok (f : Flags) (n : Nat) (udim : Nat → Nat) (fuel i off : Nat) (hi : i + fuel = n + 1) :
    LayoutOK f n udim i off (layoutFrom f n udim fuel i off).1 := by
  induction fuel generalizing i off with
  | zero => simp [layoutFrom, LayoutOK]
  | succ k ih =>
    simp only [layoutFrom]
    split
    · rename_i h
      refine ⟨le_refl _, (by show i ≤ n; omega), h, rfl, by simp [spatialCount], ?_⟩
      exact ih (i + 1) (off + udim i) (by omega)
    · rename_i h
      have hf : spatialOptimized f n i = false := by simpa using h
      exact layoutOK_shift f n udim i off _ hf (ih (i + 1) off (by omega))

theorem layoutFrom_complete (f : Flags) (n : Nat) (udim : Nat → Nat) (fuel i off : Nat) (j : Nat)
    (hj : i ≤ j ∧ j < i + fuel) (hopt : spatialOptimized f n j = true) :
    ∃ v ∈ (layoutFrom f n udim fuel i off).1, v.point = j := by
  induction fuel generalizing i off with
  | zero => omega
  | succ k ih =>
    simp only [layoutFrom]
    by_cases hij : i = j
    · subst hij
      simp only [hopt, if_true]
      exact ⟨_, List.mem_cons_self, rfl⟩
    · split
      · obtain ⟨v, hv, hp⟩ := ih (i + 1) (off + udim i) (by omega)
        exact ⟨v, List.mem_cons_of_mem _ hv, hp⟩
      · exact ih (i + 1) off (by omega)

theorem layout_eq_layoutFrom (o : Order) (d : Nat) (f : Flags) (n : Nat) (udim : Nat → Nat) (hn : n ≠ 0) :
    layout o d f n udim = ⟨(layoutFrom f n udim (n + 1) 0 n).1, (layoutFrom f n udim (n + 1) 0 n).2,
      (layoutFrom f n udim (n + 1) 0 n).2 + (derivBlocks o f).length * d⟩ := by
  simp [layout, hn]

/-- **C09 layout**: the spatial blocks start right after the N time variables, list exactly the optimised points
(inner ones always, first/last only when flagged) in index order with offsets = running sums of `udim`; the
derivative blocks follow; the reported dimension is the total. -/
theorem layout_spec (o : Order) (d : Nat) (f : Flags) (n : Nat) (udim : Nat → Nat) (hn : 0 < n) :
    let L := layout o d f n udim
    LayoutOK f n udim 0 n L.vars ∧
    L.derivOffset = n + spatialCount f n udim (n + 1) 0 ∧
    L.total = L.derivOffset + (derivBlocks o f).length * d ∧
    (∀ j, j ≤ n → spatialOptimized f n j = true → ∃ v ∈ L.vars, v.point = j) := by
  rw [layout_eq_layoutFrom o d f n udim (by omega)]
  refine ⟨layoutFrom_ok f n udim (n + 1) 0 n (by omega), ?_, ?_, ?_⟩
  · simp only [layoutFrom_offset]
  · rfl
  · intro j hj hopt
    exact layoutFrom_complete f n udim (n + 1) 0 n j (by omega) hopt

theorem spatialOptimized_iff (f : Flags) (n i : Nat) (hn : 0 < n) (hi : i ≤ n) :
    spatialOptimized f n i = true ↔ (0 < i ∧ i < n) ∨ (i = 0 ∧ f.startP = true) ∨ (i = n ∧ f.endP = true) := by
  unfold spatialOptimized
  by_cases h0 : i = 0
  · subst h0
    have : (0:Nat) ≠ n := by omega
    simp [this]
  · by_cases hnn : i = n
    · subst hnn; simp [h0]
    · simp [h0, hnn]; omega

/-- the derivative blocks: start v/a/j then end v/a/j, each present iff flagged *and* the order has it -/
theorem derivBlocks_spec (o : Order) (f : Flags) :
    derivBlocks o f =
      ([DBlock.sv, DBlock.sa, DBlock.sj, DBlock.ev, DBlock.ea, DBlock.ej].filter (fun b =>
        match b with
        | .sv => f.startV | .sa => decide (o.degree ≥ 5) && f.startA | .sj => decide (o.degree ≥ 7) && f.startJ
        | .ev => f.endV | .ea => decide (o.degree ≥ 5) && f.endA | .ej => decide (o.degree ≥ 7) && f.endJ)) := by
  have hc : ∀ (p : DBlock → Bool) (a : DBlock) (l : List DBlock),
      (a :: l).filter p = (if p a then [a] else []) ++ l.filter p := fun p a l => by cases h : p a <;> simp [h]
  simp only [derivBlocks, hc, List.filter_nil, List.append_nil, List.append_assoc]

/-- a cubic spline ignores the acceleration and jerk flags -/
theorem derivBlocks_cubic (f : Flags) :
    derivBlocks .cubic f = (if f.startV then [DBlock.sv] else []) ++ (if f.endV then [DBlock.ev] else []) := by
  simp [derivBlocks, Order.degree]

/-! ### the layout cache under reconfiguration (flags / spatial map / initial state) -/

structure LCfg where
  order : Order
  dim : Nat
  flags : Flags
  n : Nat
  udim : Nat → Nat

def LCfg.layout (c : LCfg) : Layout := ST.layout c.order c.dim c.flags c.n c.udim

structure LCache where
  cfg : LCfg
  cache : Layout
  dirty : Bool

inductive LOp where
  | setFlags (f : Flags)
  | setSpatialMap (udim : Nat → Nat)
  | setInitState (n : Nat)
  | query            -- getDimension / generateInitialGuess / evaluate: `ensureLayoutCache`

/-- the setters of the repaired code (finding F1): `markLayoutDirty` marks dirty, then rebuilds at once -/
def LCache.step (s : LCache) : LOp → LCache × Option Layout
  | .setFlags f => let c := { s.cfg with flags := f }; (⟨c, c.layout, false⟩, none)
  | .setSpatialMap u => let c := { s.cfg with udim := u }; (⟨c, c.layout, false⟩, none)
  | .setInitState n => let c := { s.cfg with n := n }; (⟨c, c.layout, false⟩, none)
  | .query => if s.dirty then (⟨s.cfg, s.cfg.layout, false⟩, some s.cfg.layout) else (s, some s.cache)

def LCache.Inv (s : LCache) : Prop := s.dirty = false → s.cache = s.cfg.layout

theorem lcache_step_inv (s : LCache) (op : LOp) (h : s.Inv) : (s.step op).1.Inv := by
  cases op with
  | setFlags f => intro _; rfl
  | setSpatialMap u => intro _; rfl
  | setInitState n => intro _; rfl
  | query =>
    simp only [LCache.step]
    split
    · intro _; rfl
    · exact h

theorem lcache_query (s : LCache) (h : s.Inv) : (s.step .query).2 = some s.cfg.layout := by
  simp only [LCache.step]
  split
  · rfl
  · rename_i hd
    have : s.dirty = false := by simpa using hd
    rw [h this]

def LCache.run (s : LCache) : List LOp → LCache
  | [] => s
  | op :: ops => ((s.step op).1).run ops

theorem lcache_run_inv (s : LCache) (ops : List LOp) (h : s.Inv) : (s.run ops).Inv := by
  induction ops generalizing s with
  | nil => exact h
  | cons op ops ih => exact ih _ (lcache_step_inv s op h)

/-- **after any reconfiguration history a query reflects the current flags / map / state** -/
theorem lcache_history (s : LCache) (ops : List LOp) (h : s.Inv) :
    ((s.run ops).step .query).2 = some (s.run ops).cfg.layout :=
  lcache_query _ (lcache_run_inv s ops h)

/-- a setter leaves the cache clean (model-level statement behind the repair of the data race F1: the `const` queries
then do not write the cache) -/
theorem lcache_clean_after_setter (s : LCache) (op : LOp) (hop : op ≠ .query) : (s.step op).1.dirty = false := by
  cases op <;> simp_all [LCache.step]

/-- a freshly constructed optimizer (constructor rebuilds) has a clean, correct cache -/
def LCache.fresh (c : LCfg) : LCache := ⟨c, c.layout, false⟩
theorem lcache_fresh_inv (c : LCfg) : (LCache.fresh c).Inv := fun _ => rfl

example : (layout .septic 2 { startP := true, endV := true, endJ := true } 2 (fun i => if i % 2 = 0 then 2 else 1)).total = 2 + (2 + 1) + 2 * 2 := by
  decide
