import STProofs.NDAdjoint
import STProofs.CubicEnergyGrad
import STProofs.HermiteEnergyGrad
/-!
# C06 in D dimensions: the analytic energy gradients of the D-dimensional spline are the total derivative of its energy

`(buildND … ).energy` computed over dual numbers has as its dual part the pairing of the published `energyGrad`
(`getEnergyGradInnerPoints`, `getEnergyGradTimes`, `getEnergyGradBoundary` of the D-dimensional object) with the tangent of
waypoints, durations and boundary states: sum over coordinates of the 1-D theorems `*_energy_grad_exact`.
-/
open ST QuadDual NDAdj
open scoped BigOperators

namespace NDEnergy
variable {K : Type} [Field K]

/-- what one column of the analytic energy gradient pairs to: `colPair` of that column in the shape of `propCol`
(`colPairE_eq`), written out on the fields of `Col` -/
def colPairE (c : Col K) (dP dh : List K) (dv0 da0 dj0 dvn dan djn : K) : K :=
  dot (c.gbStart.getD 0 0 :: (c.gradInner ++ [c.gbEnd.getD 0 0])) dP + dot c.gradTimes dh
    + c.gbStart.getD 1 0 * dv0 + c.gbStart.getD 2 0 * da0 + c.gbStart.getD 3 0 * dj0
    + c.gbEnd.getD 1 0 * dvn + c.gbEnd.getD 2 0 * dan + c.gbEnd.getD 3 0 * djn

section col
variable [LinearOrder K] [IsStrictOrderedRing K]

theorem col_energy (o : Order) (hs : List (Dual K)) (P : List (Vec (Dual K))) (bc : BC (Dual K)) (j : Nat)
    (hpos : ∀ h ∈ hs, 0 < h.re) (hne : hs ≠ []) (hP : P.length = hs.length + 1) :
    (colOf o hs P bc j).energy.du
      = colPairE (colOf o (hs.map Dual.re) (P.map vre) (bcRe bc) j)
          ((P.map (fun r => getC r j)).map Dual.du) (hs.map Dual.du)
          (getC bc.v0 j).du (getC bc.a0 j).du (getC bc.j0 j).du (getC bc.vn j).du (getC bc.an j).du (getC bc.jn j).du := by
  have hPj : (P.map (fun r => getC r j)).length = hs.length + 1 := by simp [hP]
  cases o <;>
    simp only [colOf, colCubic, colQuintic, colSeptic, colPairE, bcRe, getC_vre, col_re, List.getD_cons_zero,
      List.getD_cons_succ, lit_eq, Nat.cast_zero, zero_mul, add_zero]
  · exact CubicEG.cubic_energy_grad_exact hs _ _ _ hpos hne hPj
  · rw [QuinticEG.quintic_energy_grad_exact hs _ ⟨_, _⟩ ⟨_, _⟩ hpos hne hPj]
    simp only [QuinticAdj.V2re, QuinticAdj.V2du, QuinticAdj.ip2]
    ring
  · rw [SepticEG.septic_energy_grad_exact hs _ ⟨_, _, _⟩ ⟨_, _, _⟩ hpos hne hPj]
    simp only [SepticAdj.V3re, SepticAdj.V3du, SepticAdj.ip3]
    ring

end col

theorem colPairE_eq (c : Col K) (dP dh : List K) (dv0 da0 dj0 dvn dan djn : K) :
    colPairE c dP dh dv0 da0 dj0 dvn dan djn = colPair (colG c) dP dh dv0 da0 dj0 dvn dan djn := rfl

section nd
variable [LinearOrder K] [IsStrictOrderedRing K]

/-- **C06 in D dimensions**: the published analytic energy gradients are the total derivative of the energy -/
theorem energyND_grad (o : Order) (d : Nat) (hs : List (Dual K)) (P : List (Vec (Dual K))) (t0 : Dual K) (t0' : K)
    (bc : BC (Dual K)) (hpos : ∀ h ∈ hs, 0 < h.re) (hne : hs ≠ []) (hP : P.length = hs.length + 1) :
    (buildND o d hs P t0 bc).energy.du
      = ndPair (buildND o d (hs.map Dual.re) (P.map vre) t0' (bcRe bc)).energyGrad (P.map vdu) (hs.map Dual.du)
          (bcDu bc) := by
  have hn : 1 ≤ (hs.map Dual.re).length := by cases hs <;> simp_all
  have hlen := fun j => colOf_shape o (hs.map Dual.re) (P.map vre) (bcRe bc) j (by simp [hP])
  have hL : (buildND o d hs P t0 bc).energy.du = ∑ j ∈ Finset.range d, (colOf o hs P bc j).energy.du := by
    simp only [buildND]
    rw [sum_du, List.map_map, List.map_map, sum_map_range]
    rfl
  rw [hL, energyGrad_eq _ _ _ _ _ _ hn (fun j => (hlen j).2.2.1),
    ndPair_ofCols _ _ _ _ _ _ hn (by simp [hP]) (by simp) (fun j _ => (hlen j).2.2.2.ge)]
  refine Finset.sum_congr rfl (fun j _ => ?_)
  rw [col_energy o hs P bc j hpos hne hP, colPairE_eq, col_du]
  simp only [bcDu, getC_vdu]

end nd

end NDEnergy
