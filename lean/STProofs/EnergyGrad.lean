import STProofs.CubicAdjoint
/-!
# Energy gradients (C06)

* the partial gradients by coefficients / by durations are the dual parts (= partial derivatives) of the closed-form
  segment energy, for all three orders;
* hence (chain rule over dual numbers) the derivative of the reported energy along any tangent of the inputs is the
  upstream pairing `Σ ∂E/∂c · dc + Σ ∂E/∂T · dT`, and by the adjoint theorem (C05) this is what *propagating the
  partials* returns — for the cubic for every N.
-/
open ST

variable {K : Type} [Field K]

def cst (x : K) : Dual K := ⟨x, 0⟩

namespace Cubic
open ST.Cubic
/-- **C06, the partial gradients** (same statement for the quintic and the septic below): the chain rule for one segment
along any joint tangent of (T, coefficients) has `partialC`, `partialT` as its coefficients -/
theorem energySeg_dual (T : Dual K) (c : C4 (Dual K)) :
    (energySeg T c).du =
      gdot (partialC T.re ⟨c.c0.re, c.c1.re, c.c2.re, c.c3.re⟩) c + partialT T.re ⟨c.c0.re, c.c1.re, c.c2.re, c.c3.re⟩ * T.du := by
  simp only [energySeg, partialC, partialT, gdot]
  dual_proj
  simp only [lit_eq]
  ring

/-- `getEnergyPartialGradByCoeffs` is the derivative of the segment energy in the coefficients (T fixed) -/
theorem partialC_is_dual (T : K) (c : C4 (Dual K)) :
    (energySeg (cst T) c).du =
      (partialC T ⟨c.c0.re, c.c1.re, c.c2.re, c.c3.re⟩).c0 * c.c0.du + (partialC T ⟨c.c0.re, c.c1.re, c.c2.re, c.c3.re⟩).c1 * c.c1.du
      + (partialC T ⟨c.c0.re, c.c1.re, c.c2.re, c.c3.re⟩).c2 * c.c2.du + (partialC T ⟨c.c0.re, c.c1.re, c.c2.re, c.c3.re⟩).c3 * c.c3.du := by
  simp [energySeg_dual, gdot, cst]

/-- `getEnergyPartialGradByTimes` is the derivative of the segment energy in the duration (coefficients fixed) -/
theorem partialT_is_dual (T : K) (c : C4 K) :
    (energySeg (⟨T, 1⟩ : Dual K) ⟨cst c.c0, cst c.c1, cst c.c2, cst c.c3⟩).du = partialT T c := by
  simp [energySeg_dual, gdot, cst]
end Cubic

namespace Quintic
open ST.Quintic
theorem energySeg_dual (T : Dual K) (c : C6 (Dual K)) :
    let r : C6 K := ⟨c.c0.re, c.c1.re, c.c2.re, c.c3.re, c.c4.re, c.c5.re⟩
    (energySeg T c).du =
      (partialC T.re r).c0 * c.c0.du + (partialC T.re r).c1 * c.c1.du + (partialC T.re r).c2 * c.c2.du
      + (partialC T.re r).c3 * c.c3.du + (partialC T.re r).c4 * c.c4.du + (partialC T.re r).c5 * c.c5.du
      + partialT T.re r * T.du := by
  intro r
  simp only [r, energySeg, partialC, partialT]
  dual_proj
  simp only [lit_eq]
  ring
end Quintic

namespace Septic
open ST.Septic
theorem energySeg_dual (T : Dual K) (c : C8 (Dual K)) :
    let r : C8 K := ⟨c.c0.re, c.c1.re, c.c2.re, c.c3.re, c.c4.re, c.c5.re, c.c6.re, c.c7.re⟩
    (energySeg T c).du =
      (partialC T.re r).c0 * c.c0.du + (partialC T.re r).c1 * c.c1.du + (partialC T.re r).c2 * c.c2.du
      + (partialC T.re r).c3 * c.c3.du + (partialC T.re r).c4 * c.c4.du + (partialC T.re r).c5 * c.c5.du
      + (partialC T.re r).c6 * c.c6.du + (partialC T.re r).c7 * c.c7.du
      + partialT T.re r * T.du := by
  intro r
  simp only [r, energySeg, partialC, partialT]
  dual_proj
  simp only [lit_eq]
  ring
end Septic

section total
open ST.Cubic

def C4.re (c : C4 (Dual K)) : C4 K := ⟨c.c0.re, c.c1.re, c.c2.re, c.c3.re⟩

/-- summing the one-segment chain rule over the spline -/
theorem energy_dual (Ts : List (Dual K)) (cs : List (C4 (Dual K))) :
    (energy Ts cs).du =
      gdotC (List.zipWith (fun T c => partialC T.re (C4.re c)) Ts cs) cs
      + dot (List.zipWith (fun T c => partialT T.re (C4.re c)) Ts cs) (Ts.map Dual.du) := by
  induction Ts generalizing cs with
  | nil => cases cs <;> simp [energy, gdotC]
  | cons T Ts ih =>
    cases cs with
    | nil => simp [energy, gdotC]
    | cons c cs =>
      simp only [energy, Dual.add_du, Cubic.energySeg_dual, ih cs, List.zipWith_cons_cons, gdotC, List.map_cons, dot_cons, C4.re]
      ring

variable [LinearOrder K] [IsStrictOrderedRing K]

/-- **C06 (cubic), every N**: the derivative of the reported energy along *any* tangent of durations, waypoints and
boundary velocities equals what `propagateGrad` returns for the partial gradients — "propagating the partials
reproduces the total derivative". -/
theorem cubic_energy_total_derivative (hs Ps : List (Dual K)) (v0 vn : Dual K)
    (hpos : ∀ h ∈ hs, 0 < h.re) (hne : hs ≠ []) (hP : Ps.length = hs.length + 1) :
    let cs := build hs Ps v0 vn
    let gC := List.zipWith (fun T c => partialC T.re (C4.re c)) hs cs
    let gT := List.zipWith (fun T c => partialT T.re (C4.re c)) hs cs
    let segsR := mkSegs (hs.map Dual.re) (Ps.map Dual.re)
    let out := propagate v0.re vn.re segsR (knotM v0.re vn.re segsR) gC
    (energy hs cs).du
      = dot out.points (Ps.map Dual.du) + dot (zipAdd gT out.times) (hs.map Dual.du) + out.v0 * v0.du + out.vn * vn.du := by
  intro cs gC gT segsR out
  have hcs : cs.length = hs.length := by simp [cs, hP]
  rw [energy_dual hs cs]
  exact cubic_adjoint hs Ps v0 vn gC gT hpos hne hP (by simp [gC, hcs]) (by simp [gT, hcs])

end total
