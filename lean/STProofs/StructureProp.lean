import STProofs.Structure
/-!
# C13 — `propagateGrad` in D dimensions is the stack of the 1-D propagations

Coordinate `j` of every point / boundary gradient returned by `propagateND` is the corresponding output of the 1-D
propagation of column `j` (`propCol`), which reads only coordinate `j` of the waypoints, boundary states and upstream
gradient; the duration gradient is the upstream one plus the sum over coordinates.
-/
open ST

section
variable {K : Type} [Field K]

theorem propagateND_times (o : Order) (d : Nat) (h : List K) (P : List (Vec K)) (bc : BC K)
    (gC : List (List (Vec K))) (gT : List K) :
    (propagateND o d h P bc gC gT).times
      = zipAdd gT (sumLists h.length ((List.range d).map (fun j => (propCol o h P bc gC j).2.1))) := by
  simp only [propagateND, List.map_map]; rfl

theorem propagateND_inner (o : Order) (d : Nat) (h : List K) (P : List (Vec K)) (bc : BC K)
    (gC : List (List (Vec K))) (gT : List K) (i j : Nat) (hi : i + 1 < h.length) (hj : j < d) :
    getC ((propagateND o d h P bc gC gT).inner.getD i []) j = (propCol o h P bc gC j).1.getD (i + 1) 0 := by
  have hi' : i < h.length - 1 := by omega
  simp only [propagateND, getC, List.getD_eq_getElem?_getD, List.getElem?_map, List.getElem?_range hi',
    List.getElem?_range hj, Option.map_some, Option.getD_some, lit_eq, Nat.cast_zero]

theorem propagateND_boundary (o : Order) (d : Nat) (h : List K) (P : List (Vec K)) (bc : BC K)
    (gC : List (List (Vec K))) (gT : List K) (j : Nat) (hj : j < d) :
    getC (propagateND o d h P bc gC gT).start.p j = (propCol o h P bc gC j).1.getD 0 0 ∧
    getC (propagateND o d h P bc gC gT).fin.p j = (propCol o h P bc gC j).1.getD h.length 0 ∧
    getC (propagateND o d h P bc gC gT).start.v j = (propCol o h P bc gC j).2.2.1.getD 0 0 ∧
    getC (propagateND o d h P bc gC gT).start.a j = (propCol o h P bc gC j).2.2.1.getD 1 0 ∧
    getC (propagateND o d h P bc gC gT).start.j j = (propCol o h P bc gC j).2.2.1.getD 2 0 ∧
    getC (propagateND o d h P bc gC gT).fin.v j = (propCol o h P bc gC j).2.2.2.getD 0 0 ∧
    getC (propagateND o d h P bc gC gT).fin.a j = (propCol o h P bc gC j).2.2.2.getD 1 0 ∧
    getC (propagateND o d h P bc gC gT).fin.j j = (propCol o h P bc gC j).2.2.2.getD 2 0 := by
  simp only [propagateND, getC, List.getD_eq_getElem?_getD, List.getElem?_map, List.getElem?_range hj,
    Option.map_some, Option.getD_some, lit_eq, Nat.cast_zero, and_self]

/-- column `j` of the propagation depends only on column `j` of the data -/
theorem propCol_eq_1D (o : Order) (h : List K) (P : List (Vec K)) (bc : BC K) (gC : List (List (Vec K))) (j : Nat) :
    propCol o h P bc gC j
      = propCol o h (P.map (fun r => [getC r j])) (bcCol bc j)
          (gC.map (fun blk => blk.map (fun r => [getC r j]))) 0 := by
  have hg : ∀ i k, getC (((gC.map (fun blk => blk.map (fun r => [getC r j]))).getD i []).getD k []) 0
      = getC ((gC.getD i []).getD k []) j := by
    intro i k
    simp only [getC, List.getD_eq_getElem?_getD, List.getElem?_map]
    cases gC[i]? with
    | none => rfl
    | some blk => cases h2 : blk[k]? <;> simp [h2]
  cases o <;> simp only [propCol, map_getC_single, hg] <;> rfl

end
