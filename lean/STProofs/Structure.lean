import STProofs.Alg
/-!
# Structural theorems: coordinates are independent (C13); time shift (C14)
-/
open ST

section c13
variable {K : Type} [Field K]

/-- the boundary states of the 1-D problem of coordinate `j` -/
def bcCol (bc : BC K) (j : Nat) : BC K :=
  ⟨[getC bc.v0 j], [getC bc.a0 j], [getC bc.j0 j], [getC bc.vn j], [getC bc.an j], [getC bc.jn j]⟩

theorem map_getC_single (P : List (Vec K)) (j : Nat) :
    (P.map (fun r => [getC r j])).map (fun r => getC r 0) = P.map (fun r => getC r j) := by
  rw [List.map_map]; exact List.map_congr_left fun r _ => rfl

/-- **a D-dimensional spline is the stack of the D one-dimensional splines**: everything the model computes for
coordinate `j` is what the 1-D model computes from coordinate `j` of the waypoints and boundary states alone -/
theorem colOf_eq_1D (o : Order) (h : List K) (P : List (Vec K)) (bc : BC K) (j : Nat) :
    colOf o h P bc j = colOf o h (P.map (fun r => [getC r j])) (bcCol bc j) 0 := by
  cases o <;> simp only [colOf, map_getC_single] <;> rfl

/-- hence no output of coordinate `j` can depend on another coordinate's data -/
theorem colOf_congr (o : Order) (h : List K) (P P' : List (Vec K)) (bc bc' : BC K) (j : Nat)
    (hP : P.map (fun r => getC r j) = P'.map (fun r => getC r j))
    (hbc : bcCol bc j = bcCol bc' j) : colOf o h P bc j = colOf o h P' bc' j := by
  rw [colOf_eq_1D o h P, colOf_eq_1D o h P', hbc]
  congr 1
  have := congrArg (List.map (fun x : K => [x])) hP
  rw [List.map_map, List.map_map] at this
  exact this

/-- the energy and the duration gradients are sums over the coordinates -/
theorem energy_is_sum (o : Order) (d : Nat) (h : List K) (P : List (Vec K)) (t0 : K) (bc : BC K) :
    (buildND o d h P t0 bc).energy = sum ((List.range d).map (fun j => (colOf o h P bc j).energy)) ∧
    (buildND o d h P t0 bc).energyGrad.times = sumLists h.length ((List.range d).map (fun j => (colOf o h P bc j).gradTimes)) ∧
    (buildND o d h P t0 bc).partialT = sumLists h.length ((List.range d).map (fun j => (colOf o h P bc j).partialT)) := by
  simp only [buildND, List.map_map]
  exact ⟨rfl, rfl, rfl⟩

/-- coefficient `(segment i, power k)` of the D-dimensional spline, coordinate `j`, is that of column `j` -/
theorem coeff_of_column (o : Order) (d : Nat) (h : List K) (P : List (Vec K)) (t0 : K) (bc : BC K) (i k j : Nat)
    (hi : i < h.length) (hk : k < o.coeffNum) (hj : j < d) :
    (((buildND o d h P t0 bc).coeffs.getD i []).getD k []).getD j 0 = (((colOf o h P bc j).coeffs.getD i []).getD k 0) := by
  simp only [buildND, stack, List.getD_eq_getElem?_getD, List.getElem?_map, List.getElem?_range hi, List.getElem?_range hk,
    List.getElem?_range hj, Option.map_some, Option.getD_some, List.map_map, Function.comp, lit_eq, Nat.cast_zero]

def permuteVec (d : Nat) (σ : Nat → Nat) (r : Vec K) : Vec K := (List.range d).map (fun j => getC r (σ j))
def permuteBC (d : Nat) (σ : Nat → Nat) (bc : BC K) : BC K :=
  ⟨permuteVec d σ bc.v0, permuteVec d σ bc.a0, permuteVec d σ bc.j0, permuteVec d σ bc.vn, permuteVec d σ bc.an, permuteVec d σ bc.jn⟩

theorem getC_permuteVec (d : Nat) (σ : Nat → Nat) (r : Vec K) (j : Nat) (hj : j < d) : getC (permuteVec d σ r) j = getC r (σ j) := by
  simp [getC, permuteVec, List.getD_eq_getElem?_getD, List.getElem?_map, List.getElem?_range hj]

/-- permuting the coordinates of the inputs permutes the outputs the same way -/
theorem colOf_permute (o : Order) (d : Nat) (σ : Nat → Nat) (h : List K) (P : List (Vec K)) (bc : BC K) (j : Nat) (hj : j < d) :
    colOf o h (P.map (permuteVec d σ)) (permuteBC d σ bc) j = colOf o h P bc (σ j) := by
  rw [colOf_eq_1D o h (P.map (permuteVec d σ)), colOf_eq_1D o h P bc (σ j)]
  congr 1
  · rw [List.map_map]; apply List.map_congr_left; intro r _
    simp only [Function.comp, getC_permuteVec d σ r j hj]
  · simp only [bcCol, permuteBC, getC_permuteVec d σ _ j hj]

end c13

section c14
variable {K : Type} [Field K]

/-- shifting the start time shifts every knot time … -/
theorem cumulative_shift (t0 s : K) (h : List K) : cumulative (t0 + s) h = (cumulative t0 h).map (· + s) := by
  induction h generalizing t0 with
  | nil => simp [cumulative]
  | cons a h ih =>
    simp only [cumulative, List.map_cons]
    rw [show t0 + s + a = (t0 + a) + s by ring, ih]

/-- … and leaves the per-segment polynomials, the energy, the duration and inner-point gradients and the coefficient partials
unchanged (`buildND` reads `t0` for `cum` only) -/
theorem shift_invariant (o : Order) (d : Nat) (h : List K) (P : List (Vec K)) (t0 t0' : K) (bc : BC K) :
    (buildND o d h P t0 bc).coeffs = (buildND o d h P t0' bc).coeffs ∧
    (buildND o d h P t0 bc).energy = (buildND o d h P t0' bc).energy ∧
    (buildND o d h P t0 bc).energyGrad.times = (buildND o d h P t0' bc).energyGrad.times ∧
    (buildND o d h P t0 bc).energyGrad.inner = (buildND o d h P t0' bc).energyGrad.inner ∧
    (buildND o d h P t0 bc).partialC = (buildND o d h P t0' bc).partialC := ⟨rfl, rfl, rfl, rfl, rfl⟩

end c14
