import STProofs.Alg
import Mathlib.Algebra.BigOperators.Ring.Finset
import Mathlib.Algebra.BigOperators.Intervals
import Mathlib.Data.List.GetD
/-!
# The model's list folds as finite sums

`dot`, the pairings built on it (`blockDot`, `blockDotL`) and the coefficient pairings `gdotC` add up `f aᵢ bᵢ` along two
lists (`ZipSum`).  Such a fold is the sum over any range covering the shorter argument, entries beyond the end reading as
zero (`ZipSum.eq_sum`), and is linear in its left argument entry by entry (`zipWith_left`, `map_left`, `replicate_left`);
`ST.sum` is `List.sum`; `sumLists` adds entrywise.  What the D-dimensional and the optimizer layer need about these folds
follows from these and `Finset` algebra.
At the end: what the overlapping accumulations `oadd` / `oadd3` of the adjoint loops add up, paired with a list, is the sum
over the segments / blocks (`dot_oadd`, `dot_oadd3`).  Three facts on plain lists, without arithmetic, come first.
-/
open ST
open scoped BigOperators

theorem List.eq_head_mid_last {α : Type} (l : List α) (h : 2 ≤ l.length) (d : α) :
    l = l.headD d :: l.tail.dropLast ++ [l.getLastD d] := by
  have aux : ∀ (b : α) (rest : List α), (b :: rest).dropLast ++ [rest.getLastD b] = b :: rest := by
    intro b rest
    induction rest generalizing b with
    | nil => rfl
    | cons c rest ih => simp only [List.dropLast_cons_cons, List.getLastD_cons, List.cons_append, ih c]
  match l, h with
  | a :: b :: rest, _ => simp only [List.headD_cons, List.tail_cons, List.getLastD_cons, List.cons_append, aux b rest]

namespace ST

theorem getD_map_range {β : Type} (f : Nat → β) (n k : Nat) (z : β) :
    ((List.range n).map f).getD k z = if k < n then f k else z := by
  split
  · next h => simp [List.getD_eq_getElem?_getD, List.getElem?_range h]
  · next h => simp [List.getD_eq_getElem?_getD, List.getElem?_eq_none (l := List.range n) (by simpa using h)]

theorem getD_map' {β γ : Type} (f : β → γ) (l : List β) (i : Nat) (z : β) (z' : γ) (hz : f z = z') :
    (l.map f).getD i z' = f (l.getD i z) := hz ▸ List.getD_map l z f

section
variable {K : Type} [CommSemiring K]

/-- `S` adds up `f aᵢ bᵢ` along two lists, stopping with the shorter one -/
structure ZipSum {β γ : Type} (f : β → γ → K) (S : List β → List γ → K) : Prop where
  nil_left : ∀ B, S [] B = 0
  nil_right : ∀ A, S A [] = 0
  cons : ∀ a A b B, S (a :: A) (b :: B) = f a b + S A B

namespace ZipSum
variable {β γ : Type} {f : β → γ → K} {S : List β → List γ → K}

theorem eq_sum (h : ZipSum f S) (zb : β) (zc : γ) (hb : ∀ y, f zb y = 0) (hc : ∀ x, f x zc = 0)
    (A : List β) (B : List γ) (n : Nat) (hn : min A.length B.length ≤ n) :
    S A B = ∑ i ∈ Finset.range n, f (A.getD i zb) (B.getD i zc) := by
  induction A generalizing B n with
  | nil => simp [h.nil_left, hb]
  | cons a A ih =>
    cases B with
    | nil => simp [h.nil_right, hc]
    | cons b B =>
      obtain ⟨n, rfl⟩ : ∃ n', n = n' + 1 := ⟨n - 1, by simp at hn; omega⟩
      rw [h.cons, Finset.sum_range_succ', ih B n (by simpa using hn), add_comm]
      rfl

/-- linear in the left argument wherever `f` is: `op` is an addition in which the second summand carries the factor `c`
(`1` for `vadd`); `P` is what `f` needs of the entries for that (rows of one length) -/
theorem zipWith_left (h : ZipSum f S) (op : β → β → β) (c : K) (P : β → Prop)
    (hop : ∀ a a' b, P a → P a' → f (op a a') b = f a b + c * f a' b)
    (A A' : List β) (B : List γ) (hl : A.length = A'.length) (hA : ∀ a ∈ A, P a) (hA' : ∀ a ∈ A', P a) :
    S (List.zipWith op A A') B = S A B + c * S A' B := by
  induction A generalizing A' B with
  | nil =>
    obtain rfl : A' = [] := List.length_eq_zero_iff.mp hl.symm
    simp [h.nil_left]
  | cons a A ih =>
    match A', hl with
    | a' :: A', hl =>
      cases B with
      | nil => simp [h.nil_right]
      | cons b B =>
        rw [List.zipWith_cons_cons, h.cons, h.cons, h.cons, hop a a' b (hA a (by simp)) (hA' a' (by simp)),
          ih A' B (by simpa using hl) (fun x hx => hA x (by simp [hx])) (fun x hx => hA' x (by simp [hx]))]
        ring

theorem map_left (h : ZipSum f S) (g : β → β) (c : K) (hg : ∀ a b, f (g a) b = c * f a b) (A : List β) (B : List γ) :
    S (A.map g) B = c * S A B := by
  induction A generalizing B with
  | nil => simp [h.nil_left]
  | cons a A ih => cases B with
    | nil => simp [h.nil_right]
    | cons b B => rw [List.map_cons, h.cons, h.cons, hg, ih, mul_add]

theorem replicate_left (h : ZipSum f S) (z : β) (hz : ∀ b, f z b = 0) (n : Nat) (B : List γ) :
    S (List.replicate n z) B = 0 := by
  induction n generalizing B with
  | zero => exact h.nil_left B
  | succ n ih => cases B with
    | nil => exact h.nil_right _
    | cons b B => rw [List.replicate_succ, h.cons, hz, ih, add_zero]

theorem map_range_left (h : ZipSum f S) (zb : β) (zc : γ) (hb : ∀ y, f zb y = 0) (hc : ∀ x, f x zc = 0)
    (n : Nat) (F : Nat → β) (B : List γ) :
    S ((List.range n).map F) B = ∑ i ∈ Finset.range n, f (F i) (B.getD i zc) := by
  rw [h.eq_sum zb zc hb hc _ _ n (by simp)]
  exact Finset.sum_congr rfl (fun j hj => by rw [getD_map_range, if_pos (Finset.mem_range.mp hj)])

theorem map_range_right (h : ZipSum f S) (zb : β) (zc : γ) (hb : ∀ y, f zb y = 0) (hc : ∀ x, f x zc = 0)
    (n : Nat) (A : List β) (F : Nat → γ) :
    S A ((List.range n).map F) = ∑ i ∈ Finset.range n, f (A.getD i zb) (F i) := by
  rw [h.eq_sum zb zc hb hc _ _ n (by simp)]
  exact Finset.sum_congr rfl (fun j hj => by rw [getD_map_range, if_pos (Finset.mem_range.mp hj)])

end ZipSum

end

variable {K : Type} [DivRing K]

theorem getC_eq (v : Vec K) (j : Nat) : getC v j = v.getD j 0 := by simp [getC, lit_eq]

theorem getC_col (dP : List (Vec K)) (i j : Nat) : getC (dP.getD i []) j = (dP.map (fun r => getC r j)).getD i 0 :=
  (getD_map' (fun r => getC r j) dP i [] 0 (by simp [getC, lit_eq])).symm

theorem zipSum_dot : ZipSum (K := K) (· * ·) dot :=
  ⟨fun B => by cases B <;> simp [dot], fun A => by cases A <;> simp [dot], fun _ _ _ _ => rfl⟩

theorem dot_eq_sum (a b : List K) (n : Nat) (h : min a.length b.length ≤ n) :
    dot a b = ∑ i ∈ Finset.range n, a.getD i 0 * b.getD i 0 :=
  zipSum_dot.eq_sum 0 0 zero_mul mul_zero a b n h

theorem dot_comm (a b : List K) : dot a b = dot b a := by
  rw [dot_eq_sum a b (min a.length b.length) le_rfl, dot_eq_sum b a (min a.length b.length) (by rw [Nat.min_comm])]
  exact Finset.sum_congr rfl (fun i _ => mul_comm _ _)

theorem dot_map_range (n : Nat) (F : Nat → K) (v : List K) :
    dot ((List.range n).map F) v = ∑ j ∈ Finset.range n, F j * v.getD j 0 :=
  zipSum_dot.map_range_left 0 0 zero_mul mul_zero n F v

theorem dot_map_range_right (n : Nat) (F : Nat → K) (v : List K) :
    dot v ((List.range n).map F) = ∑ j ∈ Finset.range n, v.getD j 0 * F j :=
  zipSum_dot.map_range_right 0 0 zero_mul mul_zero n v F

theorem dot_pointwise (n : Nat) (a b c d : List K) (ha : a.length = n) (hc : c.length = n)
    (h : ∀ i, i < n → a.getD i 0 * b.getD i 0 = c.getD i 0 * d.getD i 0) : dot a b = dot c d := by
  rw [dot_eq_sum a b n (by omega), dot_eq_sum c d n (by omega)]
  exact Finset.sum_congr rfl (fun i hi => h i (Finset.mem_range.mp hi))

theorem dot_replicate_zero (n : Nat) (y : List K) : dot (List.replicate n (0 : K)) y = 0 :=
  zipSum_dot.replicate_left 0 zero_mul n y

theorem dot_append (a b c d : List K) (h : a.length = c.length) : dot (a ++ b) (c ++ d) = dot a c + dot b d := by
  induction a generalizing c with
  | nil => rw [List.length_eq_zero_iff.mp h.symm, zipSum_dot.nil_left, zero_add]; rfl
  | cons p a ih =>
    match c, h with
    | q :: c, h =>
      rw [List.cons_append, List.cons_append, zipSum_dot.cons, zipSum_dot.cons, ih c (by simpa using h), add_assoc]

theorem vadd_eq_zipWith {α : Type} [Num α] (x y : Vec α) : vadd x y = List.zipWith (· + ·) x y := by
  induction x generalizing y with
  | nil => rfl
  | cons a x ih => cases y with
    | nil => rfl
    | cons b y => rw [vadd, ih, List.zipWith_cons_cons]

theorem zipAdd_eq_vadd {α : Type} [Num α] (x y : List α) : zipAdd x y = vadd x y := by
  induction x generalizing y with
  | nil => rfl
  | cons a x ih => cases y with
    | nil => rfl
    | cons b y => rw [zipAdd, vadd, ih]

theorem vadd_length {α : Type} [Num α] (x y : Vec α) (h : x.length = y.length) : (vadd x y).length = x.length := by
  rw [vadd_eq_zipWith, List.length_zipWith, h, Nat.min_self]

theorem dot_vadd_left (a b x : Vec K) (h : a.length = b.length) : dot (vadd a b) x = dot a x + dot b x := by
  rw [vadd_eq_zipWith, zipSum_dot.zipWith_left (· + ·) 1 (fun _ => True) (fun _ _ _ _ _ => by ring) a b x h
    (fun _ _ => trivial) (fun _ _ => trivial), one_mul]

theorem dot_zipAdd (a b x : List K) (h : a.length = b.length) : dot (zipAdd a b) x = dot a x + dot b x := by
  rw [zipAdd_eq_vadd, dot_vadd_left a b x h]

theorem dot_vscale_left (c : K) (g x : Vec K) : dot (vscale c g) x = c * dot g x :=
  zipSum_dot.map_left (c * ·) c (fun _ _ => mul_assoc _ _ _) g x

theorem sum_eq_sum (l : List K) : ST.sum l = l.sum := by
  induction l with
  | nil => simp [ST.sum]
  | cons x xs ih => simp [ST.sum, ih]

theorem sum_sq_eq_dot {α : Type} [Num α] (ξ : List α) : ST.sum (ξ.map (fun x => x * x)) = dot ξ ξ := by
  induction ξ with
  | nil => rfl
  | cons x ξ ih => simp only [List.map_cons, ST.sum, dot, ih]

theorem sum_map_range (d : Nat) (F : Nat → K) : ((List.range d).map F).sum = ∑ j ∈ Finset.range d, F j := by
  induction d with
  | zero => simp
  | succ d ih => rw [List.sum_range_succ, Finset.sum_range_succ, ih]

theorem stsum_map_range (d : Nat) (F : Nat → K) : ST.sum ((List.range d).map F) = ∑ j ∈ Finset.range d, F j := by
  rw [sum_eq_sum, sum_map_range]

theorem getD_zipAdd (a b : List K) (i : Nat) (h : i < min a.length b.length) :
    (zipAdd a b).getD i 0 = a.getD i 0 + b.getD i 0 := by
  induction a generalizing b i with
  | nil => simp at h
  | cons x a ih =>
    cases b with
    | nil => simp at h
    | cons y b =>
      cases i with
      | zero => rfl
      | succ i => exact ih b i (by simpa using h)

theorem sumLists_spec (n : Nat) (ls : List (List K)) (h : ∀ l ∈ ls, n ≤ l.length) :
    (sumLists n ls).length = n ∧ ∀ i < n, (sumLists n ls).getD i 0 = (ls.map (fun l => l.getD i 0)).sum := by
  unfold sumLists
  have gen : ∀ (ls : List (List K)) (acc : List K), acc.length = n → (∀ l ∈ ls, n ≤ l.length) →
      (ls.foldl zipAdd acc).length = n ∧
        ∀ i < n, (ls.foldl zipAdd acc).getD i 0 = acc.getD i 0 + (ls.map (fun l => l.getD i 0)).sum := by
    intro ls
    induction ls with
    | nil => intro acc ha _; simp [ha]
    | cons l ls ih =>
      intro acc ha hl
      have hx := hl l (by simp)
      obtain ⟨i1, i2⟩ := ih (zipAdd acc l) (by simp; omega) (fun y hy => hl y (by simp [hy]))
      refine ⟨i1, fun i hi => ?_⟩
      rw [List.foldl_cons, i2 i hi, getD_zipAdd _ _ i (by omega), List.map_cons, List.sum_cons, add_assoc]
  obtain ⟨g1, g2⟩ := gen ls (List.replicate n (lit 0)) (by simp) h
  refine ⟨g1, fun i hi => ?_⟩
  rw [g2 i hi]
  simp [List.getD_eq_getElem?_getD, hi]

theorem dot_sumLists (n d : Nat) (T : Nat → List K) (dh : List K) (hd : dh.length ≤ n) (hT : ∀ j < d, n ≤ (T j).length) :
    dot (sumLists n ((List.range d).map T)) dh = ∑ j ∈ Finset.range d, dot (T j) dh := by
  obtain ⟨_, hg⟩ := sumLists_spec n ((List.range d).map T)
    (by intro l hl; obtain ⟨j, hj, rfl⟩ := List.mem_map.mp hl; exact hT j (List.mem_range.mp hj))
  rw [dot_eq_sum _ _ n (by omega), Finset.sum_congr rfl (fun j _ => dot_eq_sum (T j) dh n (by omega)), Finset.sum_comm]
  refine Finset.sum_congr rfl (fun i hi => ?_)
  rw [hg i (Finset.mem_range.mp hi), List.map_map, sum_map_range, Finset.sum_mul]
  rfl

end ST

section
variable {K : Type} [Field K]

def segPair : List (K × K) → List K → K
  | (l, r) :: rest, x :: y :: ys => l * x + r * y + segPair rest (y :: ys)
  | _, _ => 0

theorem dot_oaddAux (c : K) (lr : List (K × K)) (xs : List K) (hlen : xs.length = lr.length + 1) :
    dot (oaddAux c lr) xs = c * xs.headD 0 + segPair lr xs := by
  induction lr generalizing c xs with
  | nil =>
    match xs, hlen with
    | [x], _ => simp [oaddAux, segPair]
  | cons p rest ih =>
    obtain ⟨l, r⟩ := p
    match xs, hlen with
    | x :: y :: ys, hlen =>
      have := ih r (y :: ys) (by simpa using hlen)
      simp only [oaddAux, dot_cons, this, segPair, List.headD_cons]
      ring

theorem dot_oadd (lr : List (K × K)) (xs : List K) (hlen : xs.length = lr.length + 1) :
    dot (oadd lr) xs = segPair lr xs := by
  simp [oadd, dot_oaddAux _ _ _ hlen]

/-- pairing of per-block (prev, curr, next) contributions with a list -/
def segPair3 : List (K × K × K) → List K → K
  | (a, b, c) :: rest, x :: y :: z :: zs => a * x + b * y + c * z + segPair3 rest (y :: z :: zs)
  | _, _ => 0

theorem dot_oadd3 (l : List (K × K × K)) (xs : List K) (hlen : xs.length = l.length + 2) :
    dot (oadd3 l) xs = segPair3 l xs := by
  have aux : ∀ (c0 c1 : K) (l : List (K × K × K)) (xs : List K), xs.length = l.length + 2 →
      dot (oadd3Aux c0 c1 l) xs = c0 * xs.headD 0 + c1 * (xs.tail.headD 0) + segPair3 l xs := by
    intro c0 c1 l
    induction l generalizing c0 c1 with
    | nil => intro xs h; match xs, h with
      | [x, y], _ => simp [oadd3Aux, segPair3]
    | cons p rest ih =>
      obtain ⟨a, b, c⟩ := p
      intro xs h; match xs, h with
      | x :: y :: z :: zs, h =>
        simp only [oadd3Aux, dot_cons, ih _ _ (y :: z :: zs) (by simpa using h), segPair3, List.headD_cons, List.tail_cons]
        ring
  rw [oadd3, aux _ _ _ _ hlen]; simp

end
