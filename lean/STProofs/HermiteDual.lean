import STProofs.HermiteKit
import STProofs.BlockDual
/-!
# Real and dual parts in the quintic / septic spline

`Dual.re` commutes with `+ − * /` and numerals without side condition, hence with every operation of the model: blocks,
right-hand sides, the whole elimination (`bthomas_re`) and the closure (`build_re`) — "the real part of the spline built
over the dual numbers is the spline built from the real parts", with no hypothesis on pivots.
Also here, because they speak of dual numbers only: the inverse powers of a dual duration in closed form (`ipow`,
`mkTP_dual`: the form in which `HermiteAdjoint` differentiates the two loops), and the laws `BlockDual` asks of real and
dual parts of blocks and block vectors (`dualLaws`).
-/
open ST

/-! ### inverse powers of a dual number

For `h : Dual K` with `h.re ≠ 0` the powers of `1 / h` are `ipow i d k` with `i = 1 / h.re`, `d = h.du`.  Once the time
powers `mkTP h` are written this way (`mkTP_dual`) the derivative identities of everything that is polynomial in the inverse
powers are polynomial identities in `i`: nothing to cancel, `ring` alone closes them. -/
section ipow
variable {K : Type} [Field K]

def ipow (i d : K) (k : ℕ) : Dual K := ⟨i ^ k, -(k * i ^ (k + 1) * d)⟩

theorem ipow_mul (i d : K) (k m : ℕ) : ipow i d k * ipow i d m = ipow i d (k + m) := by
  ext <;> simp only [ipow, Dual.mul_re, Dual.mul_du] <;> push_cast <;> ring

theorem one_div_dual (h : Dual K) (hh : h.re ≠ 0) : lit 1 / h = ipow (1 / h.re) h.du 1 := by
  ext <;> simp only [ipow, Dual.div_re, Dual.div_du, lit_re, lit_du] <;> push_cast <;> field_simp
  ring

theorem ST.Quintic.mkTP_dual (h : Dual K) (hh : h.re ≠ 0) :
    Quintic.mkTP h = ⟨h, ipow (1 / h.re) h.du 1, ipow (1 / h.re) h.du 2, ipow (1 / h.re) h.du 3, ipow (1 / h.re) h.du 4,
      ipow (1 / h.re) h.du 5, ipow (1 / h.re) h.du 6⟩ := by
  simp only [Quintic.mkTP, one_div_dual h hh, ipow_mul]
theorem ST.Septic.mkTP_dual (h : Dual K) (hh : h.re ≠ 0) :
    Septic.mkTP h = ⟨h, ipow (1 / h.re) h.du 1, ipow (1 / h.re) h.du 2, ipow (1 / h.re) h.du 3, ipow (1 / h.re) h.du 4,
      ipow (1 / h.re) h.du 5, ipow (1 / h.re) h.du 6, ipow (1 / h.re) h.du 7⟩ := by
  simp only [Septic.mkTP, one_div_dual h hh, ipow_mul]
end ipow

namespace QuinticAdj
open ST.Quintic
variable {K : Type} [Field K]
def M2re (a : M2 (Dual K)) : M2 K := ⟨a.a00.re, a.a01.re, a.a10.re, a.a11.re⟩
def M2du (a : M2 (Dual K)) : M2 K := ⟨a.a00.du, a.a01.du, a.a10.du, a.a11.du⟩
def V2re (v : V2 (Dual K)) : V2 K := ⟨v.x.re, v.y.re⟩
def V2du (v : V2 (Dual K)) : V2 K := ⟨v.x.du, v.y.du⟩
def _root_.QuinticEG.C6re (c : C6 (Dual K)) : C6 K := ⟨c.c0.re, c.c1.re, c.c2.re, c.c3.re, c.c4.re, c.c5.re⟩

theorem dualLaws : DualLaws (RD := M2 (Dual K)) (VD := V2 (Dual K)) (R := M2 K) (V := V2 K) M2re M2du V2re V2du where
  smul_re a v := by simp only [V2re, M2re, V2.smul_def]; dual_proj
  smul_du a v := by simp only [V2du, V2re, M2re, M2du, V2.smul_def, V2.add_def]; dual_proj; congr 1 <;> ring
  add_re v w := by simp only [V2re, V2.add_def]; dual_proj
  add_du v w := by simp only [V2du, V2.add_def]; dual_proj

/-! the differentiated block system in the `BSolves` form: `bsolvesE_du` at zero end values -/
def rowRe (r : BRow (M2 (Dual K)) (V2 (Dual K))) : BRow (M2 K) (V2 K) := ⟨M2re r.l, M2re r.d, M2re r.u, V2re r.b⟩

/-- right-hand side of the differentiated system `A·dX = b' − A'·X` -/
def rhoB : V2 K → List (BRow (M2 (Dual K)) (V2 (Dual K))) → List (V2 K) → List (V2 K)
  | xp, r :: rs, x :: xs => (V2du r.b - (M2du r.l • xp + M2du r.d • x + M2du r.u • xs.headD 0)) :: rhoB x rs xs
  | _, _, _ => []

def withB : List (BRow (M2 K) (V2 K)) → List (V2 K) → List (BRow (M2 K) (V2 K))
  | r :: rs, b :: bs => ⟨r.l, r.d, r.u, b⟩ :: withB rs bs
  | _, _ => []

theorem rhoB_eq (xp : V2 K) (rows : List (BRow (M2 (Dual K)) (V2 (Dual K)))) (xs : List (V2 K)) :
    rhoB xp rows xs = rhoE M2du V2du xp rows xs 0 := by
  induction rows generalizing xp xs with
  | nil => cases xs <;> rfl
  | cons r rs ih =>
    cases xs with
    | nil => rfl
    | cons x xs => exact congrArg (_ :: ·) (ih x xs)
omit [Field K] in
theorem withB_eq (rows : List (BRow (M2 K) (V2 K))) (b : List (V2 K)) : withB rows b = _root_.withB rows b := by
  induction rows generalizing b with
  | nil => cases b <;> rfl
  | cons r rs ih =>
    cases b with
    | nil => rfl
    | cons b bs => exact congrArg (_ :: ·) (ih bs)

theorem bsolves_du (xp : V2 (Dual K)) (rows : List (BRow (M2 (Dual K)) (V2 (Dual K)))) (xs : List (V2 (Dual K)))
    (h : BSolves xp rows xs) :
    BSolves (V2du xp) (withB (rows.map rowRe) (rhoB (V2re xp) rows (xs.map V2re))) (xs.map V2du) := by
  have := bsolvesE_du dualLaws xp 0 rows xs ((bsolvesE_zero _ _ _).mpr h)
  rwa [dualLaws.zero_du, dualLaws.zero_re, bsolvesE_zero, ← rhoB_eq, ← withB_eq] at this

theorem reHom : BlkHom (R := M2 (Dual K)) (V := V2 (Dual K)) (R' := M2 K) (V' := V2 K) M2re V2re where
  mul a b := by simp only [M2re, BlkOps.mul, M2.mul]; dual_proj
  sub a b := by simp only [M2re, BlkOps.sub, M2.sub]; dual_proj
  inv a := by simp only [M2re, BlkOps.inv, M2.inv]; dual_proj; simp only [lit_eq]
  act a v := by simp only [M2re, V2re, BlkOps.act, M2.act]; dual_proj
  vsub v w := by simp only [V2re, BlkOps.vsub, V2.sub]; dual_proj

theorem det_re (a : M2 (Dual K)) : (M2.det a).re = M2.det (M2re a) := by simp [M2.det, M2re]

theorem blockL_re (h : Dual K) : M2re (blockL (mkTP h)) = blockL (mkTP h.re) := by
  simp only [blockL, M2re, mkTP]; dual_proj; simp only [lit_eq]
theorem blockU_re (h : Dual K) : M2re (blockU (mkTP h)) = blockU (mkTP h.re) := by
  simp only [blockU, M2re, mkTP]; dual_proj; simp only [lit_eq]
theorem blockD_re (a b : Dual K) : M2re (blockD (mkTP a) (mkTP b)) = blockD (mkTP a.re) (mkTP b.re) := by
  simp only [blockD, M2re, mkTP]; dual_proj; simp only [lit_eq]
theorem blockRhs_re (hL hR p0 d0 p1 d1 : Dual K) :
    V2re (blockRhs ⟨mkTP hL, p0, d0⟩ ⟨mkTP hR, p1, d1⟩) = blockRhs ⟨mkTP hL.re, p0.re, d0.re⟩ ⟨mkTP hR.re, p1.re, d1.re⟩ := by
  simp only [blockRhs, V2re, mkTP]; dual_proj; simp only [lit_eq]
theorem closeSeg_re (h p0 d : Dual K) (k0 k1 : V2 (Dual K)) :
    QuinticEG.C6re (closeSeg ⟨mkTP h, p0, d⟩ k0 k1) = closeSeg ⟨mkTP h.re, p0.re, d.re⟩ (V2re k0) (V2re k1) := by
  simp only [QuinticEG.C6re, closeSeg, mkTP, V2re]; dual_proj; simp only [lit_eq]
end QuinticAdj

namespace SepticAdj
open ST.Septic
variable {K : Type} [Field K]
def M3re (a : M3 (Dual K)) : M3 K := ⟨a.a00.re, a.a01.re, a.a02.re, a.a10.re, a.a11.re, a.a12.re, a.a20.re, a.a21.re, a.a22.re⟩
def M3du (a : M3 (Dual K)) : M3 K := ⟨a.a00.du, a.a01.du, a.a02.du, a.a10.du, a.a11.du, a.a12.du, a.a20.du, a.a21.du, a.a22.du⟩
def V3re (v : V3 (Dual K)) : V3 K := ⟨v.x.re, v.y.re, v.z.re⟩
def V3du (v : V3 (Dual K)) : V3 K := ⟨v.x.du, v.y.du, v.z.du⟩
def _root_.SepticEG.C8re (c : C8 (Dual K)) : C8 K := ⟨c.c0.re, c.c1.re, c.c2.re, c.c3.re, c.c4.re, c.c5.re, c.c6.re, c.c7.re⟩

theorem dualLaws : DualLaws (RD := M3 (Dual K)) (VD := V3 (Dual K)) (R := M3 K) (V := V3 K) M3re M3du V3re V3du where
  smul_re a v := by simp only [V3re, M3re, V3.smul_def]; dual_proj
  smul_du a v := by simp only [V3du, V3re, M3re, M3du, V3.smul_def, V3.add_def]; dual_proj; congr 1 <;> ring
  add_re v w := by simp only [V3re, V3.add_def]; dual_proj
  add_du v w := by simp only [V3du, V3.add_def]; dual_proj

/-! the differentiated block system in the `BSolves` form: `bsolvesE_du` at zero end values -/
def rowRe (r : BRow (M3 (Dual K)) (V3 (Dual K))) : BRow (M3 K) (V3 K) := ⟨M3re r.l, M3re r.d, M3re r.u, V3re r.b⟩

/-- right-hand side of the differentiated system `A·dX = b' − A'·X` -/
def rhoB : V3 K → List (BRow (M3 (Dual K)) (V3 (Dual K))) → List (V3 K) → List (V3 K)
  | xp, r :: rs, x :: xs => (V3du r.b - (M3du r.l • xp + M3du r.d • x + M3du r.u • xs.headD 0)) :: rhoB x rs xs
  | _, _, _ => []

def withB : List (BRow (M3 K) (V3 K)) → List (V3 K) → List (BRow (M3 K) (V3 K))
  | r :: rs, b :: bs => ⟨r.l, r.d, r.u, b⟩ :: withB rs bs
  | _, _ => []

theorem rhoB_eq (xp : V3 K) (rows : List (BRow (M3 (Dual K)) (V3 (Dual K)))) (xs : List (V3 K)) :
    rhoB xp rows xs = rhoE M3du V3du xp rows xs 0 := by
  induction rows generalizing xp xs with
  | nil => cases xs <;> rfl
  | cons r rs ih =>
    cases xs with
    | nil => rfl
    | cons x xs => exact congrArg (_ :: ·) (ih x xs)
omit [Field K] in
theorem withB_eq (rows : List (BRow (M3 K) (V3 K))) (b : List (V3 K)) : withB rows b = _root_.withB rows b := by
  induction rows generalizing b with
  | nil => cases b <;> rfl
  | cons r rs ih =>
    cases b with
    | nil => rfl
    | cons b bs => exact congrArg (_ :: ·) (ih bs)

theorem bsolves_du (xp : V3 (Dual K)) (rows : List (BRow (M3 (Dual K)) (V3 (Dual K)))) (xs : List (V3 (Dual K)))
    (h : BSolves xp rows xs) :
    BSolves (V3du xp) (withB (rows.map rowRe) (rhoB (V3re xp) rows (xs.map V3re))) (xs.map V3du) := by
  have := bsolvesE_du dualLaws xp 0 rows xs ((bsolvesE_zero _ _ _).mpr h)
  rwa [dualLaws.zero_du, dualLaws.zero_re, bsolvesE_zero, ← rhoB_eq, ← withB_eq] at this

theorem reHom : BlkHom (R := M3 (Dual K)) (V := V3 (Dual K)) (R' := M3 K) (V' := V3 K) M3re V3re where
  mul a b := by simp only [M3re, BlkOps.mul, M3.mul]; dual_proj
  sub a b := by simp only [M3re, BlkOps.sub, M3.sub]; dual_proj
  inv a := by simp only [M3re, BlkOps.inv, M3.inv]; dual_proj; simp only [lit_eq]
  act a v := by simp only [M3re, V3re, BlkOps.act, M3.act]; dual_proj
  vsub v w := by simp only [V3re, BlkOps.vsub, V3.sub]; dual_proj

theorem det_re (a : M3 (Dual K)) : (M3.det a).re = M3.det (M3re a) := by simp [M3.det, M3re]

theorem blockL_re (h : Dual K) : M3re (blockL (mkTP h)) = blockL (mkTP h.re) := by
  simp only [blockL, M3re, mkTP]; dual_proj; simp only [lit_eq]
theorem blockU_re (h : Dual K) : M3re (blockU (mkTP h)) = blockU (mkTP h.re) := by
  simp only [blockU, M3re, mkTP]; dual_proj; simp only [lit_eq]
theorem blockD_re (a b : Dual K) : M3re (blockD (mkTP a) (mkTP b)) = blockD (mkTP a.re) (mkTP b.re) := by
  simp only [blockD, M3re, mkTP]; dual_proj; simp only [lit_eq]
theorem blockRhs_re (hL hR p0 d0 p1 d1 : Dual K) :
    V3re (blockRhs ⟨mkTP hL, p0, d0⟩ ⟨mkTP hR, p1, d1⟩) = blockRhs ⟨mkTP hL.re, p0.re, d0.re⟩ ⟨mkTP hR.re, p1.re, d1.re⟩ := by
  simp only [blockRhs, V3re, mkTP]; dual_proj; simp only [lit_eq]
theorem closeSeg_re (h p0 d : Dual K) (k0 k1 : V3 (Dual K)) :
    SepticEG.C8re (closeSeg ⟨mkTP h, p0, d⟩ k0 k1) = closeSeg ⟨mkTP h.re, p0.re, d.re⟩ (V3re k0) (V3re k1) := by
  simp only [SepticEG.C8re, closeSeg, mkTP, V3re]; dual_proj; simp only [lit_eq]
end SepticAdj

namespace HS
open QuinticAdj SepticAdj
variable {o : Deg} {K : Type} [Field K]

def reV : V o (Dual K) → V o K := match o with | .quintic => V2re | .septic => V3re
def duV : V o (Dual K) → V o K := match o with | .quintic => V2du | .septic => V3du
def reR : R o (Dual K) → R o K := match o with | .quintic => M2re | .septic => M3re
def duR : R o (Dual K) → R o K := match o with | .quintic => M2du | .septic => M3du
def reC : C o (Dual K) → C o K := match o with | .quintic => QuinticEG.C6re | .septic => SepticEG.C8re

theorem dualLaws : DualLaws (RD := R o (Dual K)) (VD := V o (Dual K)) (R := R o K) (V := V o K) reR duR reV duV := by
  cases o; exacts [QuinticAdj.dualLaws, SepticAdj.dualLaws]
theorem reHom : BlkHom (R := R o (Dual K)) (V := V o (Dual K)) (R' := R o K) (V' := V o K) reR reV := by cases o; exacts [QuinticAdj.reHom, SepticAdj.reHom]
theorem det_re (a : R o (Dual K)) : (det a).re = det (reR a) := by cases o; exacts [QuinticAdj.det_re a, SepticAdj.det_re a]
/-! `reHom` in ring notation (the model's block operations are the ring operations, `blkOps_eq`) -/
theorem mul_re (a b : R o (Dual K)) : reR (a * b) = reR a * reR b := by
  have := (reHom (o := o) (K := K)).mul a b
  rwa [blkOps_eq, blkOps_eq] at this
theorem sub_re (a b : R o (Dual K)) : reR (a - b) = reR a - reR b := by
  have := (reHom (o := o) (K := K)).sub a b
  rwa [blkOps_eq, blkOps_eq] at this
theorem inv_re (a : R o (Dual K)) : reR (inv a) = inv (reR a) := by
  have := (reHom (o := o) (K := K)).inv a
  rwa [blkOps_eq, blkOps_eq] at this

theorem blockL_re (h : Dual K) : reR (blockL (mkTP o h)) = blockL (mkTP o h.re) := by
  cases o; exacts [QuinticAdj.blockL_re h, SepticAdj.blockL_re h]
theorem blockU_re (h : Dual K) : reR (blockU (mkTP o h)) = blockU (mkTP o h.re) := by
  cases o; exacts [QuinticAdj.blockU_re h, SepticAdj.blockU_re h]
theorem blockD_re (a b : Dual K) : reR (blockD (mkTP o a) (mkTP o b)) = blockD (mkTP o a.re) (mkTP o b.re) := by
  cases o; exacts [QuinticAdj.blockD_re a b, SepticAdj.blockD_re a b]
theorem blockRhs_re (hL hR p0 d0 p1 d1 : Dual K) :
    reV (blockRhs (Seg.mk (mkTP o hL) p0 d0) (Seg.mk (mkTP o hR) p1 d1))
      = blockRhs (Seg.mk (mkTP o hL.re) p0.re d0.re) (Seg.mk (mkTP o hR.re) p1.re d1.re) := by
  cases o; exacts [QuinticAdj.blockRhs_re hL hR p0 d0 p1 d1, SepticAdj.blockRhs_re hL hR p0 d0 p1 d1]
theorem closeSeg_re (h p0 d : Dual K) (k0 k1 : V o (Dual K)) :
    reC (closeSeg (Seg.mk (mkTP o h) p0 d) k0 k1) = closeSeg (Seg.mk (mkTP o h.re) p0.re d.re) (reV k0) (reV k1) := by
  cases o; exacts [QuinticAdj.closeSeg_re h p0 d k0 k1, SepticAdj.closeSeg_re h p0 d k0 k1]

theorem knotRows_re (hs Ps : List (Dual K)) :
    (knotRows (mkSegs o hs Ps)).map (BRow.map reR reV) = knotRows (mkSegs o (hs.map Dual.re) (Ps.map Dual.re)) := by
  induction hs generalizing Ps with
  | nil => simp [mkSegs_nil, knotRows]
  | cons hL hs ih =>
    match Ps with
    | [] => simp [mkSegs_nil_right, knotRows]
    | [_] => simp [mkSegs_single, knotRows]
    | p0 :: p1 :: Ps =>
      have ih' := ih (p1 :: Ps)
      match hs, Ps with
      | [], _ => simp [mkSegs_cons, mkSegs_nil, knotRows]
      | _ :: _, [] => simp [mkSegs_cons, mkSegs_single, knotRows]
      | hR :: hs', p2 :: Ps' =>
        simp only [mkSegs_cons, List.map_cons, knotRows, Seg.tp_mk] at ih' ⊢
        rw [ih']
        simp only [BRow.map, blockL_re, blockU_re, blockD_re, blockRhs_re, Dual.sub_re]

theorem rows_mat (bL bR : V o K) (segs : List (Seg o K)) : SameMat (rows bL bR segs) (knotRows segs) := by
  rw [rows_eq, SameMat, dirR_mat, dirL_mat]

theorem rows_re (hs Ps : List (Dual K)) (bL bR : V o (Dual K)) :
    (rows bL bR (mkSegs o hs Ps)).map (BRow.map reR reV)
      = rows (reV bL) (reV bR) (mkSegs o (hs.map Dual.re) (Ps.map Dual.re)) := by
  rw [rows_eq, rows_eq, dirR_re dualLaws, dirL_re dualLaws, knotRows_re]

theorem bthomas_re (hs Ps : List (Dual K)) (bL bR : V o (Dual K)) :
    (bthomas (rows bL bR (mkSegs o hs Ps))).map reV
      = bthomas (rows (reV bL) (reV bR) (mkSegs o (hs.map Dual.re) (Ps.map Dual.re))) := by
  rw [bthomas_map reHom, rows_re]

theorem closure_re (hs Ps : List (Dual K)) (ks : List (V o (Dual K))) :
    (closure (mkSegs o hs Ps) ks).map reC = closure (mkSegs o (hs.map Dual.re) (Ps.map Dual.re)) (ks.map reV) := by
  induction hs generalizing Ps ks with
  | nil => simp [mkSegs_nil, closure_nil]
  | cons h hs ih =>
    match Ps, ks with
    | [], _ => simp [mkSegs_nil_right, closure_nil]
    | [_], _ => simp [mkSegs_single, closure_nil]
    | _ :: _ :: _, [] => simp [closure_nil_right]
    | _ :: _ :: _, [_] => simp [closure_single]
    | p0 :: p1 :: Ps, k0 :: k1 :: ks =>
      simp only [mkSegs_cons, List.map_cons, closure_cons, ih (p1 :: Ps) (k1 :: ks), closeSeg_re, Dual.sub_re]

/-- **the real part of the spline built over the dual numbers is the spline of the real parts** — no hypothesis on pivots -/
theorem build_re (hs Ps : List (Dual K)) (bL bR : V o (Dual K)) :
    (build o hs Ps bL bR).map reC = build o (hs.map Dual.re) (Ps.map Dual.re) (reV bL) (reV bR) := by
  simp only [build_eq, closure_re, List.map_cons, List.map_append, List.map_nil, bthomas_re]

end HS
