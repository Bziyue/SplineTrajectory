import STProofs.RoundTrip
import STProofs.QuadDual
/-!
# C07 — gradient assembly is the adjoint of decoding

`assemble` pulls the gradient w.r.t. the decoded quantities back through the time map (`backward`), the spatial map
(`backwardGrad`) and scatters it into the decision-vector layout; `decode` reads the same packed slices.  For every
tangent `dx` of the decision vector:

    ⟨g.times, d(durations)⟩ + Σ_{optimised points} ⟨g_p, d(waypoint)⟩ + Σ_{flagged blocks} ⟨g_b, d(block)⟩ = ⟨assemble g, dx⟩

for all maps whose `backward`/`backwardGrad` are the transposed derivatives of `toTime`/`toPhysical` (`MapsOK`).
-/
open ST RoundTrip QuadDual

namespace Assemble
variable {K : Type} [Field K]

/-! ## pairing along a tiling -/

theorem dot_tiled (y dx : List K) (hl : y.length = dx.length) (ws : List (Nat × List K)) (lo hi : Nat) (h : Tiled lo ws hi) :
    dot (segment y lo (hi - lo)) (segment dx lo (hi - lo))
      = (ws.map (fun w => dot (segment y w.1 w.2.length) (segment dx w.1 w.2.length))).sum := by
  induction ws generalizing lo with
  | nil => rw [show lo = hi from h]; simp [segment]
  | cons w ws ih =>
    obtain ⟨rfl, h'⟩ := h
    have := h'.le
    rw [show hi - w.1 = w.2.length + (hi - (w.1 + w.2.length)) by omega, segment_add, segment_add,
      dot_append _ _ _ _ (by simp [segment, hl]), ih _ h', List.map_cons, List.sum_cons]

/-- **pairing with a vector all of whose slices have been written** (whatever it held before) -/
theorem dot_applyW (x dx : List K) (ws : List (Nat × List K)) (h : Tiled 0 ws x.length) (hd : dx.length = x.length) :
    dot (applyW x ws) dx = (ws.map (fun w => dot w.2 (segment dx w.1 w.2.length))).sum := by
  obtain ⟨hlen, hseg, -, -⟩ := applyW_spec x ws 0 _ h.packedW le_rfl
  have hy : ∀ z : List K, z.length = x.length → segment z 0 x.length = z := fun z hz => by simp [segment, ← hz]
  have := dot_tiled _ dx (hlen.trans hd.symm) ws 0 _ h
  rw [Nat.sub_zero, hy _ hlen, hy _ hd] at this
  rw [this]
  exact congrArg List.sum (List.map_congr_left (fun w hw => by rw [hseg w hw]))

/-! ## reading the decoded quantities -/

theorem blocks_pair (d : Nat) (x : List (Dual K)) (bg : DBlock → Vec K) (bs : List DBlock) (hnd : bs.Nodup)
    (hl : ∀ b ∈ bs, (bg b).length = d) (bc : BC (Dual K)) (off : Nat) :
    (bs.map (fun b => dot (bg b) (vdu
        ((bs.foldl (fun (acc : BC (Dual K) × Nat) b' => (acc.1.setBlock b' (segment x acc.2 d), acc.2 + d)) (bc, off)).1.getBlock b)))).sum
      = ((blockW d bg off bs).map (fun w => dot w.2 (segment (x.map Dual.du) w.1 w.2.length))).sum := by
  induction bs generalizing bc off with
  | nil => simp [blockW]
  | cons b bs ih =>
    have hnb : b ∉ bs := (List.nodup_cons.mp hnd).1
    have hnd' : bs.Nodup := (List.nodup_cons.mp hnd).2
    simp only [List.foldl_cons, List.map_cons, List.sum_cons, blockW]
    rw [fold_getBlock_ne d x bs _ _ b hnb, getBlock_setBlock_self,
      ih hnd' (fun b hb => hl b (by simp [hb])) (bc.setBlock b (segment x off d)) (off + d), hl b (by simp)]
    simp only [vdu, segment_map]

theorem derivBlocks_nodup (o : Order) (f : Flags) : (derivBlocks o f).Nodup := by
  rw [derivBlocks_spec]
  exact List.Nodup.filter _ (by decide)

/-- hypotheses on the maps (both instantiations of the same user code, on dual numbers and on the base field);
`tdom`: the set of unconstrained duration variables on which the time map is claimed differentiable (e.g. away from a pole) -/
structure MapsOK (tdom : K → Prop) (cD : Config (Dual K)) (cR : Config K) : Prop where
  order : cD.order = cR.order
  dim : cD.dim = cR.dim
  flags : cD.flags = cR.flags
  n : cD.n = cR.n
  udim : cD.sm.udim = cR.sm.udim
  tmRe : ∀ τ : Dual K, tdom τ.re → (cD.tm.toTime τ).re = cR.tm.toTime τ.re
  tmDu : ∀ (τ : Dual K) (g : K), tdom τ.re →
      g * (cD.tm.toTime τ).du = cR.tm.backward τ.re (cR.tm.toTime τ.re) g * τ.du
  smRe : ∀ (ξ : Vec (Dual K)) (i : Nat), vre (cD.sm.toPhysical ξ i) = cR.sm.toPhysical (vre ξ) i
  smDu : ∀ (ξ : Vec (Dual K)) (i : Nat) (g : Vec K), ξ.length = cR.sm.udim i →
      dot g (vdu (cD.sm.toPhysical ξ i)) = dot (cR.sm.backwardGrad (vre ξ) g i) (vdu ξ)
  smLen : ∀ (ξ : Vec K) (i : Nat) (g : Vec K), ξ.length = cR.sm.udim i → g.length = cR.dim →
      (cR.sm.backwardGrad ξ g i).length = cR.sm.udim i

theorem layout_eq {tdom : K → Prop} (cD : Config (Dual K)) (cR : Config K) (hm : MapsOK tdom cD cR) : cD.layout = cR.layout := by
  simp only [Config.layout, hm.order, hm.dim, hm.flags, hm.n, hm.udim]

theorem times_pair {tdom : K → Prop} (cD : Config (Dual K)) (cR : Config K) (hm : MapsOK tdom cD cR) (x : List (Dual K))
    (hdom : ∀ i, i < cR.n → tdom (x.getD i (lit 0)).re)
    (gt : List K) (hg : gt.length = cR.n) :
    dot gt ((decode cD x).times.map Dual.du)
      = dot ((List.range cR.n).map (fun i => cR.tm.backward ((x.map Dual.re).getD i (lit 0))
            ((decode cR (x.map Dual.re)).times.getD i (lit 0)) (gt.getD i (lit 0))))
          (segment (x.map Dual.du) 0 cR.n) := by
  apply dot_pointwise cR.n _ _ _ _ hg (by simp)
  intro i hi
  rw [decode_times, decode_times, hm.n, List.map_map, getD_map_range, getD_map_range, getD_map_range, if_pos hi, if_pos hi, if_pos hi,
    getD_segment _ _ _ _ _ hi, Nat.zero_add, getD_map' Dual.re x i (lit 0) (lit 0) rfl,
    getD_map' Dual.du x i (lit 0) 0 rfl, show (lit 0 : K) = 0 from Nat.cast_zero]
  exact hm.tmDu _ _ (hdom i hi)

abbrev gpOf (n : Nat) (g : GradsND K) (i : Nat) : Vec K := pointGradOf n g i
abbrev bgOf (g : GradsND K) : DBlock → Vec K := blockGradOf g

theorem assemble_eq {α : Type} [Num α] (c : Config α) (x times : List α) (g : GradsND α) :
    assemble c x times g = applyW (List.replicate x.length (lit 0)) (writes c
      ((List.range c.n).map (fun i => c.tm.backward (x.getD i (lit 0)) (times.getD i (lit 0)) (g.times.getD i (lit 0))))
      (fun v => c.sm.backwardGrad (segment x v.offset v.dof) (pointGradOf c.n g v.point) v.point) (blockGradOf g)) := by
  simp only [assemble, blocks_foldl, writes, applyW, List.foldl_cons, List.foldl_append, List.foldl_map]

/-- **C07: gradient assembly is the adjoint of decoding** -/
theorem assemble_adjoint {tdom : K → Prop} (cD : Config (Dual K)) (cR : Config K) (hm : MapsOK tdom cD cR) (x : List (Dual K))
    (hdom : ∀ i, i < cR.n → tdom (x.getD i (lit 0)).re) (g : GradsND K)
    (hn : 0 < cR.n) (hx : x.length = cR.layout.total) (hgt : g.times.length = cR.n)
    (hbg : ∀ b ∈ derivBlocks cR.order cR.flags, (bgOf g b).length = cR.dim)
    (hpg : ∀ i, i ≤ cR.n → (gpOf cR.n g i).length = cR.dim)
    (hwl : cD.refWaypoints.length = cR.n + 1) :
    dot g.times ((decode cD x).times.map Dual.du)
      + (cR.layout.vars.map (fun v => dot (gpOf cR.n g v.point) (vdu ((decode cD x).waypoints.getD v.point [])))).sum
      + ((derivBlocks cR.order cR.flags).map (fun b => dot (bgOf g b) (vdu ((decode cD x).bc.getBlock b)))).sum
      = dot (assemble cR (x.map Dual.re) (decode cR (x.map Dual.re)).times g) (x.map Dual.du) := by
  have hne : cR.n ≠ 0 := by omega
  obtain ⟨hpk, hvs, htot⟩ := layout_packed cR hne
  have hLD := layout_eq cD cR hm
  have hbnd := (packedL_bounds _ 0 cR.n _ hpk).2
  -- the point slices of a vector of the layout's length have the map's unconstrained dimension
  have hsl : ∀ {β : Type} (y : List β), y.length = cR.layout.total → ∀ v ∈ cR.layout.vars,
      (segment y v.offset v.dof).length = cR.sm.udim v.point := by
    intro β y hy v hv
    have := (hbnd v hv).2
    rw [← (hvs v hv).1, segment_length _ _ _ (by omega)]
  have hbgl : ∀ v ∈ cR.layout.vars, (cR.sm.backwardGrad (segment (x.map Dual.re) v.offset v.dof)
      (gpOf cR.n g v.point) v.point).length = v.dof := by
    intro v hv
    have := hm.smLen _ _ (gpOf cR.n g v.point) (hsl (x.map Dual.re) (by simp [hx]) v hv) (hpg v.point (hvs v hv).2.2)
    rwa [← (hvs v hv).1] at this
  rw [assemble_eq, dot_applyW _ _ _ (by
    simpa [hx] using tiled_writes cR hne _ _ _ ((List.length_map _).trans List.length_range) hbgl hbg) (by simp)]
  simp only [writes, List.map_cons, List.sum_cons, List.map_append, List.sum_append, List.map_map, List.length_map,
    List.length_range]
  -- optimised waypoints
  have h2 : cR.layout.vars.map (fun v => dot (gpOf cR.n g v.point) (vdu ((decode cD x).waypoints.getD v.point [])))
      = cR.layout.vars.map ((fun w : Nat × List K => dot w.2 (segment (x.map Dual.du) w.1 w.2.length)) ∘ fun v =>
          (v.offset, cR.sm.backwardGrad (segment (x.map Dual.re) v.offset v.dof) (gpOf cR.n g v.point) v.point)) := by
    apply List.map_congr_left
    intro v hv
    rw [Function.comp, decode_optimised_wp cD x (hm.n ▸ hne) (hm.n ▸ hwl) v (hLD ▸ hv), hm.smDu _ _ _ (hsl x hx v hv),
      hbgl v hv]
    simp only [vre, vdu, segment_map]
  -- flagged boundary blocks
  have h3 := blocks_pair cR.dim x (bgOf g) _ (derivBlocks_nodup cR.order cR.flags) hbg cD.refBC cR.layout.derivOffset
  rw [decode_bc, hLD, hm.order, hm.flags, hm.dim, times_pair cD cR hm x hdom g.times hgt, h2, h3, add_assoc]

end Assemble
