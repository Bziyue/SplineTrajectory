import STProofs.HermiteKit
/-!
# Lengths of what one column of the D-dimensional spline publishes

For a non-empty list of durations and one waypoint more than durations, every column has one coefficient row of length
`coeffNum` per segment, one duration gradient per segment and one point gradient per interior knot (`colOf_shape`,
`propCol_times_length`).  No arithmetic law is used: the statements hold for every `Num` instance.
-/
open ST

namespace ST.Cubic
variable {α : Type} [Num α]

@[simp] theorem gradInner_length (cs : List (C4 α)) : (gradInner cs).length = cs.length - 1 := by
  induction cs with
  | nil => rfl
  | cons c cs ih =>
    cases cs with
    | nil => rfl
    | cons c' cs => rw [gradInner, List.length_cons, ih]; rfl

theorem build_length_eq (hs Ps : List α) (v0 vn : α) (hP : Ps.length = hs.length + 1) : (build hs Ps v0 vn).length = hs.length := by
  rw [build_length, hP, Nat.add_sub_cancel, Nat.min_self]

theorem propagate_times_length (v0 vn : α) (segs : List (Seg α)) (gs : List (C4 α)) (hne : segs ≠ [])
    (hg : gs.length = segs.length) :
    (propagate v0 vn segs (knotM v0 vn segs) gs).times.length = segs.length := by
  simp [propagate, hne, hg]

end ST.Cubic

namespace HS
variable {o : Deg} {α : Type} [Num α]

theorem gradInner_length_cons (cL cR : C o α) (cs : List (C o α)) :
    (gradInner (cL :: cR :: cs)).length = (gradInner (cR :: cs)).length + 1 := by cases o <;> rfl

@[simp] theorem gradInner_length (cs : List (C o α)) : (gradInner cs).length = cs.length - 1 := by
  induction cs with
  | nil => cases o <;> rfl
  | cons c cs ih =>
    cases cs with
    | nil => cases o <;> rfl
    | cons c' cs => rw [gradInner_length_cons, ih]; rfl

theorem propagate_times_length (hs Ps : List α) (bL bR : V o α) (gs : List (C o α)) (hne : hs ≠ [])
    (hP : Ps.length = hs.length + 1) (hg : gs.length = hs.length) :
    (propagate (buildFull o hs Ps bL bR) gs).times.length = hs.length := by
  have h1 : hs.length - 1 + 1 = hs.length := Nat.sub_add_cancel (List.length_pos_iff.mpr hne)
  obtain ⟨hsl, hfl, hkl⟩ := buildFull_lengths o hs Ps bL bR hne hP
  generalize buildFull o hs Ps bL bR = b at hsl hfl hkl ⊢
  have hl1 : (loop1 b.segs gs b.knots).length = hs.length := by
    rw [loop1_length _ _ _ (by rw [hg, hsl]) (by rw [hkl, hsl]), hsl]
  have hlam : (bsolveT b.facts ((oaddV ((loop1 b.segs gs b.knots).map (·.2.1))).tail.dropLast)).length = hs.length - 1 := by
    rw [bsolveT_length _ _ (by
      rw [List.length_dropLast, List.length_tail, oaddV_length, List.length_map, hl1, hfl, Nat.add_sub_cancel]), hfl]
  have hl2 := loop2_length b.segs b.knots _ (by rw [hlam, hsl, h1]) (by rw [hlam, hkl]; exact congrArg Nat.succ h1.symm)
  rw [propagate_times, zipAdd_length, List.length_map, oadd_length, List.length_map, hl1, hl2, hlam, h1, Nat.min_self]

end HS

/-! ## one column, any order -/
section
variable {α : Type} [Num α]

theorem colOf_shape (o : Order) (hs : List α) (P : List (Vec α)) (bc : BC α) (j : Nat) (hP : P.length = hs.length + 1) :
    (colOf o hs P bc j).coeffs.length = hs.length ∧ (∀ r ∈ (colOf o hs P bc j).coeffs, r.length = o.coeffNum) ∧
    (colOf o hs P bc j).gradInner.length = hs.length - 1 ∧ (colOf o hs P bc j).gradTimes.length = hs.length := by
  have hPj : (P.map (fun r => getC r j)).length = hs.length + 1 := by rw [List.length_map, hP]
  -- all four follow from the length of the list of pieces, which each order's construction gives
  have key : ∀ {β : Type} {cs : List β} {toL : β → List α} {gt : β → α} {gi : List α} {nc : Nat}, cs.length = hs.length →
      (∀ c, (toL c).length = nc) → gi.length = cs.length - 1 →
      (cs.map toL).length = hs.length ∧ (∀ r ∈ cs.map toL, r.length = nc) ∧ gi.length = hs.length - 1 ∧
        (cs.map gt).length = hs.length := by
    intro β cs toL gt gi nc hcl hrow hgi
    refine ⟨(List.length_map _).trans hcl, fun r hr => ?_, hcl ▸ hgi, (List.length_map _).trans hcl⟩
    obtain ⟨c, _, rfl⟩ := List.mem_map.mp hr
    exact hrow c
  cases o
  · exact key (Cubic.build_length_eq hs _ _ _ hPj) (fun _ => rfl) (Cubic.gradInner_length _)
  · exact key (HS.build_length .quintic hs _ _ _ hPj) (fun _ => rfl) (HS.gradInner_length (o := .quintic) _)
  · exact key (HS.build_length .septic hs _ _ _ hPj) (fun _ => rfl) (HS.gradInner_length (o := .septic) _)

theorem colOf_row_length (o : Order) (hs : List α) (P : List (Vec α)) (bc : BC α) (j : Nat)
    (hP : P.length = hs.length + 1) {i : Nat} (hi : i < hs.length) :
    ((colOf o hs P bc j).coeffs.getD i []).length = o.coeffNum := by
  obtain ⟨c1, c2, -⟩ := colOf_shape o hs P bc j hP
  rw [List.getD_eq_getElem?_getD, List.getElem?_eq_getElem (c1 ▸ hi)]
  exact c2 _ (List.getElem_mem _)

theorem propCol_times_length (o : Order) (hs : List α) (P : List (Vec α)) (bc : BC α) (gC : List (List (Vec α))) (j : Nat)
    (hne : hs ≠ []) (hP : P.length = hs.length + 1) : (propCol o hs P bc gC j).2.1.length = hs.length := by
  have hPj : (P.map (fun r => getC r j)).length = hs.length + 1 := by rw [List.length_map, hP]
  cases o with
  | cubic =>
    have hseg : (Cubic.mkSegs hs (P.map (fun r => getC r j))).length = hs.length := by
      rw [Cubic.mkSegs_length, hPj, Nat.add_sub_cancel, Nat.min_self]
    exact (Cubic.propagate_times_length _ _ _ _ (Cubic.mkSegs_ne_nil hs _ hne hPj)
      (by rw [List.length_map, List.length_range, hseg])).trans hseg
  | quintic =>
    exact HS.propagate_times_length (o := .quintic) hs _ _ _ _ hne hPj ((List.length_map _).trans List.length_range)
  | septic =>
    exact HS.propagate_times_length (o := .septic) hs _ _ _ _ hne hPj ((List.length_map _).trans List.length_range)

end
