import STProofs.EvaluateGrad
/-!
# C07: the maps shipped with the optimizer / used by the harness satisfy `MapsOK`, and the user-facing form of the theorem

`liftCfg c tmD smD` is the real configuration `c` re-read over dual numbers (constants get zero tangent) with the
dual-number versions `tmD`, `smD` of its maps.  `TmOK` / `SmOK` say that `backward` / `backwardGrad` are the transposed
derivatives of `toTime` / `toPhysical`; they are proved for the identity, `QuadInv`, affine and reciprocal time maps and
for the identity and paraboloid (fewer unconstrained than physical coordinates) spatial maps.
-/
open ST QuadDual NDAdj NDEnergy EvalCore Assemble EvaluateGrad

namespace MapsInst
variable {K : Type} [Field K]

def lift (v : K) : Dual K := ⟨v, 0⟩
def vlift (v : Vec K) : Vec (Dual K) := v.map lift

@[simp] theorem lift_re (v : K) : (lift v).re = v := rfl
@[simp] theorem lift_du (v : K) : (lift v).du = 0 := rfl
theorem vre_vlift (v : Vec K) : vre (vlift v) = v :=
  (List.map_map ..).trans (List.map_id v)

def bcLift (bc : BC K) : BC (Dual K) := ⟨vlift bc.v0, vlift bc.a0, vlift bc.j0, vlift bc.vn, vlift bc.an, vlift bc.jn⟩

def liftCfg (c : Config K) (tmD : TimeMap (Dual K)) (smD : SpatialMap (Dual K)) : Config (Dual K) :=
  { order := c.order, dim := c.dim, refTimes := c.refTimes.map lift, refWaypoints := c.refWaypoints.map vlift,
    refBC := bcLift c.refBC, startTime := lift c.startTime, flags := c.flags, rho := lift c.rho, steps := c.steps,
    tm := tmD, sm := smD }

/-- `backward` is the derivative of `toTime` (chain-rule factor) -/
structure TmOK (tdom : K → Prop) (tmD : TimeMap (Dual K)) (tmR : TimeMap K) : Prop where
  re : ∀ τ : Dual K, tdom τ.re → (tmD.toTime τ).re = tmR.toTime τ.re
  du : ∀ (τ : Dual K) (g : K), tdom τ.re → g * (tmD.toTime τ).du = tmR.backward τ.re (tmR.toTime τ.re) g * τ.du

/-- no restriction on the duration variables -/
def everywhere : K → Prop := fun _ => True

/-- `backwardGrad` is the transposed Jacobian of `toPhysical` -/
structure SmOK (d : Nat) (smD : SpatialMap (Dual K)) (smR : SpatialMap K) : Prop where
  udim : smD.udim = smR.udim
  re : ∀ (ξ : Vec (Dual K)) (i : Nat), vre (smD.toPhysical ξ i) = smR.toPhysical (vre ξ) i
  du : ∀ (ξ : Vec (Dual K)) (i : Nat) (g : Vec K), ξ.length = smR.udim i →
      dot g (vdu (smD.toPhysical ξ i)) = dot (smR.backwardGrad (vre ξ) g i) (vdu ξ)
  len : ∀ (ξ : Vec K) (i : Nat) (g : Vec K), ξ.length = smR.udim i → g.length = d → (smR.backwardGrad ξ g i).length = smR.udim i

theorem mapsOK_lift {tdom : K → Prop} (c : Config K) (tmD : TimeMap (Dual K)) (smD : SpatialMap (Dual K))
    (ht : TmOK tdom tmD c.tm) (hs : SmOK c.dim smD c.sm) : MapsOK tdom (liftCfg c tmD smD) c :=
  { order := rfl, dim := rfl, flags := rfl, n := by simp [Config.n, liftCfg], udim := hs.udim, tmRe := ht.re, tmDu := ht.du,
    smRe := hs.re, smDu := hs.du, smLen := hs.len }

theorem refsOK_lift (c : Config K) (tmD : TimeMap (Dual K)) (smD : SpatialMap (Dual K)) : RefsOK (liftCfg c tmD smD) c := by
  constructor
  · simp only [liftCfg, List.map_map]
    exact (List.map_congr_left (fun r _ => vre_vlift r)).trans (List.map_id _)
  · intro r hr e he
    simp only [liftCfg, List.mem_map] at hr
    obtain ⟨r0, _, rfl⟩ := hr
    simp only [vlift, List.mem_map] at he
    obtain ⟨a, _, rfl⟩ := he
    rfl
  · simp only [liftCfg, bcRe, bcLift, vre_vlift]
  · intro b e he
    cases b <;> (simp only [liftCfg, bcLift, BC.getBlock, vlift, List.mem_map] at he; obtain ⟨a, _, rfl⟩ := he; rfl)

section final
variable [LinearOrder K] [IsStrictOrderedRing K] [FloorRing K]

/-- **C07, user-facing form**: for a real configuration `c`, a decision vector `x` and a direction `dx` (the dual parts),
the directional derivative of the returned cost along `dx` — computed by running the same `evaluate` over dual numbers —
is `⟨grad, dx⟩` for the gradient `evaluate` returns -/
theorem evaluate_grad_exact_lift {tdom : K → Prop} (c : Config K) (tmD : TimeMap (Dual K)) (smD : SpatialMap (Dual K))
    (ht : TmOK tdom tmD c.tm) (hs : SmOK c.dim smD c.sm) (x : List (Dual K))
    (hdom : ∀ i, i < c.n → tdom (x.getD i (lit 0)).re) (costsD : Costs (Dual K)) (costsR : Costs K)
    (hn : 0 < c.n) (hx : x.length = c.layout.total) (hwl : c.refWaypoints.length = c.n + 1)
    (hpos : ∀ h ∈ (decode c (x.map Dual.re)).times, 0 < h)
    (hc : CostsOK c.n c.dim costsD costsR (decode (liftCfg c tmD smD) x)) :
    (evaluate (liftCfg c tmD smD) x costsD).cost.du = dot (evaluate c (x.map Dual.re) costsR).grad (x.map Dual.du) := by
  have hm := mapsOK_lift c tmD smD ht hs
  apply evaluate_grad_exact (liftCfg c tmD smD) c hm (refsOK_lift c tmD smD) x hdom costsD costsR rfl rfl rfl rfl rfl hn hx
    (by simp [liftCfg, hwl]) hpos
  rw [hm.n]
  exact hc

end final

theorem tmOK_identity : TmOK everywhere (identityTimeMap : TimeMap (Dual K)) (identityTimeMap : TimeMap K) :=
  ⟨fun _ _ => rfl, fun _ _ _ => rfl⟩

theorem tmOK_affine (a b : K) : TmOK everywhere (affineTimeMap (lift a) (lift b)) (affineTimeMap a b) := by
  constructor
  · intro τ _; simp only [affineTimeMap]; dual_proj; simp
  · intro τ g _; simp only [affineTimeMap]; dual_proj; simp; ring

/-- the harness's reciprocal map `T = b/(1 − aτ)`, whose `backward` uses the decoded duration: away from its pole -/
theorem tmOK_recip (a b : K) (hb : b ≠ 0) :
    TmOK (fun τ => 1 - a * τ ≠ 0) (recipTimeMap (lift a) (lift b)) (recipTimeMap a b) := by
  constructor
  · intro τ _; simp only [recipTimeMap]; dual_proj; simp
  · intro τ g h
    simp only [recipTimeMap]; dual_proj; simp
    field_simp

section quadinv
variable [LinearOrder K] [IsStrictOrderedRing K] [FloorRing K]

/-- the default time map `QuadInvTimeMap` (any `sqrt`: `toTau` is not used by `evaluate`) -/
theorem tmOK_quadInv (sqD : Dual K → Dual K) (sqR : K → K) : TmOK everywhere (quadInvTimeMap sqD) (quadInvTimeMap sqR) := by
  have hc : ∀ τ : Dual K, ((lit 0 : Dual K).re < τ.re) = ((lit 0 : K) < τ.re) := fun _ => rfl
  constructor
  · intro τ _
    simp only [quadInvTimeMap, QuadInv.toTime, NumOrd.lt, litq, hc]
    split <;> (dual_proj; simp)
  · -- both sides carry the same denominator, so no non-vanishing argument is needed
    intro τ g _
    simp only [quadInvTimeMap, QuadInv.toTime, QuadInv.backward, NumOrd.lt, litq, hc]
    split <;> (dual_proj; simp; ring)

end quadinv

theorem smOK_identity (d : Nat) : SmOK d (identitySpatialMap d : SpatialMap (Dual K)) (identitySpatialMap d : SpatialMap K) :=
  ⟨rfl, fun _ _ => rfl, fun _ _ _ _ => rfl, fun _ _ _ _ hg => hg⟩

theorem dot_snoc (g a : Vec K) (s : K) (m : Nat) (ha : a.length = m) :
    dot g (a ++ [s]) = dot (g.take m) a + g.getD m 0 * s := by
  induction m generalizing g a with
  | zero =>
    rw [List.eq_nil_of_length_eq_zero ha]
    cases g with
    | nil => simp [dot, lit_eq]
    | cons x g => simp
  | succ m ih =>
    match a, ha with
    | y :: a, ha =>
      cases g with
      | nil => simp [dot, lit_eq]
      | cons x g =>
        simp only [List.cons_append, dot_cons, List.take_succ_cons, List.getD_cons_succ, ih g a (by simpa using ha)]
        ring

/-- the harness's reduced-coordinate map: points of one parity live on a paraboloid (`dof = D − 1`) -/
theorem smOK_paraboloid (d parity : Nat) (hd : 1 ≤ d) :
    SmOK d (paraboloidMap d parity : SpatialMap (Dual K)) (paraboloidMap d parity : SpatialMap K) := by
  constructor
  · rfl
  · intro ξ i
    simp only [paraboloidMap]
    split
    · rfl
    · simp only [vre, List.map_append, List.map_cons, List.map_nil]
      congr 2
      have : (ST.sum (ξ.map (fun x => x * x))).re = ST.sum ((ξ.map Dual.re).map (fun x => x * x)) := by
        rw [sum_sq_eq_dot, dot_re, ← sum_sq_eq_dot, vre]
      dual_proj
      rw [this]
      simp [lit_eq]
  · intro ξ i g hξ
    simp only [paraboloidMap] at hξ ⊢
    split
    · rfl
    · rename_i hpar
      rw [if_neg hpar] at hξ
      simp only [vre, vdu, List.map_append, List.map_cons, List.map_nil]
      have hl : (ξ.map Dual.du).length = d - 1 := by simp [hξ]
      rw [dot_snoc g (ξ.map Dual.du) _ (d - 1) hl]
      have hs : (ST.sum (ξ.map (fun x => x * x))).du = 2 * dot (ξ.map Dual.re) (ξ.map Dual.du) := by
        rw [sum_sq_eq_dot, dot_du, dot_comm (vdu ξ), vre, vdu, two_mul]
      -- the gradient adds `gl · 2c · ξ` to the first `D − 1` entries of `g`, as far as `g` reaches
      have hm : min (g.take (d - 1)).length (ξ.map Dual.re).length = min (d - 1) g.length := by simp [hξ]
      rw [List.zipWith_comm, List.zipWith_eq_zipWith_take_min, hm, List.take_take, Nat.min_eq_left (Nat.min_le_left _ _),
        zipSum_dot.zipWith_left _ (g.getD (d - 1) (lit 0) * (lit 2 * (lit (i + 1) / lit 4))) (fun _ => True)
          (fun _ _ _ _ _ => by ring) _ _ _ (by simp [hξ]) (fun _ _ => trivial) (fun _ _ => trivial)]
      by_cases hg : d ≤ g.length
      · rw [Nat.min_eq_left (by omega), List.take_of_length_le (l := ξ.map Dual.re) (by simp [hξ])]
        dual_proj
        rw [hs]
        simp [lit_eq]
        ring
      · rw [List.getD_eq_default _ _ (by omega), List.getD_eq_default _ _ (by omega), Nat.min_eq_right (by omega),
          List.take_of_length_le (le_refl _), List.take_of_length_le (l := g) (by omega)]
        simp only [lit_eq, Nat.cast_zero, zero_mul]
  · intro ξ i g hξ hg
    simp only [paraboloidMap] at hξ ⊢
    split
    · rename_i hpar; rw [if_pos hpar] at hξ; rw [hg]
    · rename_i hpar
      rw [if_neg hpar] at hξ
      simp [hξ, hg]

end MapsInst
