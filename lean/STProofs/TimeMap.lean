import STProofs.Alg
import Mathlib.Analysis.Calculus.Deriv.Inv
import Mathlib.Analysis.Calculus.Deriv.Mul
import Mathlib.Analysis.Calculus.Deriv.Add
import Mathlib.Analysis.SpecialFunctions.Sqrt
import Mathlib.Tactic.Linarith
import Mathlib.Tactic.Positivity
import Mathlib.Analysis.Calculus.Deriv.MeanValue
import Mathlib.Tactic.FunProp
/-!
# `QuadInvTimeMap` over ℝ (C17)

The model's `QuadInv.toTime / toTau / backward`, instantiated at ℝ (with `Real.sqrt`), form a strictly
increasing C¹ bijection ℝ → (0, ∞) whose derivative is exactly the factor `backward` multiplies by.
-/
open ST Set

noncomputable def toTime (τ : ℝ) : ℝ := QuadInv.toTime τ
noncomputable def toTau (T : ℝ) : ℝ := QuadInv.toTau Real.sqrt T
noncomputable def backward (τ T g : ℝ) : ℝ := QuadInv.backward τ T g
/-- the derivative claimed by `backward` -/
noncomputable def dToTime (τ : ℝ) : ℝ :=
  if τ > 0 then τ + 1 else (1 - τ) / (((1/2 * τ - 1) * τ + 1) * ((1/2 * τ - 1) * τ + 1))

theorem toTime_eq (τ : ℝ) : toTime τ = if τ > 0 then (1/2 * τ + 1) * τ + 1 else 1 / ((1/2 * τ - 1) * τ + 1) := by
  simp only [toTime, QuadInv.toTime, NumOrd.lt, litq, lit_eq, gt_iff_lt]
  push_cast
  simp only [decide_eq_true_eq]

theorem toTau_eq (T : ℝ) : toTau T = if T > 1 then Real.sqrt (2 * T - 1) - 1 else 1 - Real.sqrt (2 / T - 1) := by
  simp only [toTau, QuadInv.toTau, NumOrd.lt, lit_eq, gt_iff_lt]
  push_cast
  simp only [decide_eq_true_eq]

theorem backward_eq (τ T g : ℝ) : backward τ T g = g * dToTime τ := by
  simp only [backward, QuadInv.backward, NumOrd.lt, litq, lit_eq, dToTime, gt_iff_lt]
  push_cast
  simp only [decide_eq_true_eq]
  split_ifs <;> ring

/-- the denominator of the branch `τ ≤ 0` is `½((τ − 1)² + 1)` -/
theorem quadInv_den_pos (τ : ℝ) : 0 < (1/2 * τ - 1) * τ + 1 := by
  rw [show (1/2 * τ - 1) * τ + 1 = 1/2 * ((τ - 1) ^ 2 + 1) by ring]; positivity

/-- every optimisation variable is sent to a strictly positive duration -/
theorem toTime_pos (τ : ℝ) : 0 < toTime τ := by
  rw [toTime_eq]; split_ifs with h
  · exact add_pos (mul_pos (by linarith) h) one_pos
  · exact one_div_pos.mpr (quadInv_den_pos τ)

/-- the inverse recovers the variable from the duration -/
theorem toTau_toTime (τ : ℝ) : toTau (toTime τ) = τ := by
  rw [toTime_eq]; split_ifs with h
  · -- `T > 1` and `2T − 1 = (τ + 1)²`
    have h1 : (1/2 * τ + 1) * τ + 1 > 1 := lt_add_of_pos_left 1 (mul_pos (by linarith) h)
    rw [toTau_eq, if_pos h1, show 2 * ((1/2 * τ + 1) * τ + 1) - 1 = (τ + 1) ^ 2 by ring, Real.sqrt_sq (by linarith)]
    ring
  · -- `T = 1/d ≤ 1` since `d − 1` is a product of two non-positive factors, and `2/T − 1 = 2d − 1 = (1 − τ)²`
    have hτ : τ ≤ 0 := not_lt.mp h
    have h1 : ¬ (1 / ((1/2 * τ - 1) * τ + 1) > 1) := by
      rw [not_lt, div_le_one (quadInv_den_pos τ)]
      exact le_add_of_nonneg_left (mul_nonneg_of_nonpos_of_nonpos (by linarith) hτ)
    rw [toTau_eq, if_neg h1, one_div, div_inv_eq_mul, show 2 * ((1/2 * τ - 1) * τ + 1) - 1 = (1 - τ) ^ 2 by ring,
      Real.sqrt_sq (by linarith)]
    ring

/-- … and vice versa, for every positive duration -/
theorem toTime_toTau (T : ℝ) (hT : 0 < T) : toTime (toTau T) = T := by
  rw [toTau_eq]; split_ifs with h
  · -- `s = √(2T − 1) > 1`, and the branch `τ > 0` at `s − 1` is `½(s² + 1)`
    have hs : 0 < Real.sqrt (2 * T - 1) - 1 := sub_pos.mpr (Real.lt_sqrt_of_sq_lt (by linarith))
    have hsq : Real.sqrt (2 * T - 1) ^ 2 = 2 * T - 1 := Real.sq_sqrt (by linarith)
    rw [toTime_eq, if_pos hs]
    linear_combination (1/2) * hsq
  · -- `s = √(2/T − 1) ≥ 1`, and the denominator of the branch `τ ≤ 0` at `1 − s` is `½(s² + 1) = 1/T`
    have hq : 1 ≤ 2 / T - 1 := by rw [le_sub_iff_add_le, le_div_iff₀ hT]; linarith [not_lt.mp h]
    have hs : ¬ (1 - Real.sqrt (2 / T - 1) > 0) := not_lt.mpr (sub_nonpos.mpr (Real.le_sqrt_of_sq_le (by linarith)))
    have hsq : Real.sqrt (2 / T - 1) ^ 2 = 2 / T - 1 := Real.sq_sqrt (by linarith)
    rw [toTime_eq, if_neg hs, show (1/2 * (1 - Real.sqrt (2 / T - 1)) - 1) * (1 - Real.sqrt (2 / T - 1)) + 1 = 1 / T by
      linear_combination (1/2) * hsq, one_div_one_div]

theorem hasDerivAt_posBranch (τ : ℝ) : HasDerivAt (fun τ : ℝ => (1/2 * τ + 1) * τ + 1) (τ + 1) τ := by
  have h := ((((hasDerivAt_id' τ).const_mul (1/2:ℝ)).add_const 1).mul (hasDerivAt_id' τ)).add_const (1:ℝ)
  exact h.congr_deriv (by ring)

theorem hasDerivAt_den (τ : ℝ) : HasDerivAt (fun τ : ℝ => (1/2 * τ - 1) * τ + 1) (τ - 1) τ := by
  have h := ((((hasDerivAt_id' τ).const_mul (1/2:ℝ)).sub_const 1).mul (hasDerivAt_id' τ)).add_const (1:ℝ)
  exact h.congr_deriv (by ring)

theorem hasDerivAt_negBranch (τ : ℝ) :
    HasDerivAt (fun τ : ℝ => 1 / ((1/2 * τ - 1) * τ + 1))
      ((1 - τ) / (((1/2 * τ - 1) * τ + 1) * ((1/2 * τ - 1) * τ + 1))) τ := by
  rw [show (fun τ : ℝ => 1 / ((1/2 * τ - 1) * τ + 1)) = fun y => ((1/2 * y - 1) * y + 1)⁻¹ from funext fun _ => one_div _]
  exact ((hasDerivAt_den τ).inv (quadInv_den_pos τ).ne').congr_deriv (by rw [neg_sub, sq])

/-- two differentiable branches glued at `0`, where values and derivatives agree -/
theorem hasDerivAt_ite_pos {f g f' g' : ℝ → ℝ} (hf : ∀ x, HasDerivAt f (f' x) x) (hg : ∀ x, HasDerivAt g (g' x) x)
    (h0 : f 0 = g 0) (h0' : f' 0 = g' 0) (x : ℝ) :
    HasDerivAt (fun x => if x > 0 then f x else g x) (if x > 0 then f' x else g' x) x := by
  rcases lt_trichotomy x 0 with h | rfl | h
  · rw [if_neg (not_lt.mpr h.le)]
    refine (hg x).congr_of_eventuallyEq ?_
    filter_upwards [Iio_mem_nhds h] with y hy using if_neg (not_lt.mpr (le_of_lt hy))
  · -- at the switch point: the one-sided derivatives on `(-∞, 0]` and `[0, ∞)` agree
    rw [if_neg (lt_irrefl _)]
    have hL : HasDerivWithinAt (fun x => if x > 0 then f x else g x) (g' 0) (Iic 0) 0 :=
      (hg 0).hasDerivWithinAt.congr (fun y hy => if_neg (not_lt.mpr hy)) (if_neg (lt_irrefl _))
    have hR : HasDerivWithinAt (fun x => if x > 0 then f x else g x) (g' 0) (Ici 0) 0 := by
      refine (h0' ▸ (hf 0).hasDerivWithinAt).congr (fun y hy => ?_) (by rw [if_neg (lt_irrefl _), h0])
      rcases eq_or_lt_of_le (show (0:ℝ) ≤ y from hy) with rfl | hy'
      · rw [if_neg (lt_irrefl _), h0]
      · exact if_pos hy'
    simpa using hL.union hR
  · rw [if_pos h]
    refine (hf x).congr_of_eventuallyEq ?_
    filter_upwards [Ioi_mem_nhds h] with y hy using if_pos hy

/-- **C¹ across the switch point**: the two-sided derivative exists at every τ and equals the branch formula,
which is the factor `backward` multiplies by -/
theorem toTime_hasDerivAt (τ : ℝ) : HasDerivAt toTime (dToTime τ) τ := by
  rw [funext toTime_eq]
  exact hasDerivAt_ite_pos hasDerivAt_posBranch hasDerivAt_negBranch (by norm_num) (by norm_num) τ

theorem dToTime_pos (τ : ℝ) : 0 < dToTime τ := by
  unfold dToTime; split_ifs with h
  · linarith
  · exact div_pos (by linarith) (mul_pos (quadInv_den_pos τ) (quadInv_den_pos τ))

/-- the derivative is continuous (so the map is C¹, also across the switch point) -/
theorem dToTime_continuous : Continuous dToTime := by
  have e : dToTime = fun τ : ℝ => if τ ≤ 0 then (1 - τ) / (((1/2 * τ - 1) * τ + 1) * ((1/2 * τ - 1) * τ + 1)) else τ + 1 := by
    funext τ; simp only [dToTime, gt_iff_lt, ← not_le, ite_not]
  rw [e]
  apply Continuous.if_le
  · apply Continuous.div (by fun_prop) (by fun_prop)
    intro x; exact (mul_pos (quadInv_den_pos x) (quadInv_den_pos x)).ne'
  · fun_prop
  · exact continuous_id
  · exact continuous_const
  · intro x hx; subst hx; norm_num

/-- strictly increasing: positive derivative everywhere -/
theorem toTime_strictMono : StrictMono toTime := by
  apply strictMono_of_deriv_pos
  intro x
  rw [(toTime_hasDerivAt x).deriv]
  exact dToTime_pos x

/-- `backward` multiplies the incoming gradient by exactly the derivative of the map -/
theorem backward_is_chain_rule (τ T g : ℝ) : backward τ T g = g * deriv toTime τ := by
  rw [backward_eq, (toTime_hasDerivAt τ).deriv]

/-- the identity map passes values and gradients through unchanged -/
theorem identity_map (x g : ℝ) :
    (identityTimeMap (α := ℝ)).toTime x = x ∧ (identityTimeMap (α := ℝ)).toTau x = x ∧
    (identityTimeMap (α := ℝ)).backward x x g = g := ⟨rfl, rfl, rfl⟩
