import STProofs.HermiteUnique
import STProofs.EnergyGrad
/-!
# C06 (quintic / septic): the closed-form analytic energy gradients are the total derivatives of the reported energy — every N

Envelope argument: `E.du = Σ ∂E/∂c·dc + ∂E/∂T·dT` (chain rule on dual numbers), the first sum is pulled back through
the Hermite closure (`loop1_sum`); for the energy partials the pull-back onto the knot derivatives is `±2` times the
derivatives `s … 2s−2` at the two ends of every piece (`seg1_energy`: quintic `(2 s⁗, −2 s‴)` left, `(−2 s⁗, 2 s‴)` right;
septic `(−2 s⁽⁶⁾, 2 s⁽⁵⁾, −2 s⁗)` left, the negative right), so at every interior knot it cancels by the optimality
conditions (`KKT`) whatever the derivative of the knot values is; what remains are exactly the closed forms
`getEnergyGradTimes`, `getEnergyGradInnerPoints`, `getEnergyGradBoundary`.
-/
open ST

namespace QuinticEG
open ST.Quintic QuinticAdj QuinticK
variable {K : Type} [Field K]

/-- `getEnergyGradBoundary` in terms of the first piece `f` and the last piece `l` of duration `T` -/
theorem gradBoundary_spec (hs : List K) (cs : List (C6 K)) (f l : C6 K) (T : K) (hf : cs.head? = some f)
    (hl : cs.getLast? = some l) (hT : hs.getLast? = some T) :
    (gradBoundary hs cs).1.p = -(240 * f.c5)
    ∧ (⟨(gradBoundary hs cs).1.v, (gradBoundary hs cs).1.a⟩ : V2 K) = ⟨2 * q_ev4 f 0, -(2 * q_ev3 f 0)⟩
    ∧ (gradBoundary hs cs).2.p = 240 * l.c5
    ∧ (⟨(gradBoundary hs cs).2.v, (gradBoundary hs cs).2.a⟩ : V2 K) = ⟨-(2 * q_ev4 l T), 2 * q_ev3 l T⟩ := by
  simp only [gradBoundary, hf, hl, hT, q_ev3, q_ev4, lit_eq, V2.mk.injEq]
  push_cast
  refine ⟨by ring, ⟨by ring, by ring⟩, by ring, by ring, by ring⟩

theorem eR_add_eL (h : K) (c c' : C6 K) (hj : (⟨q_ev4 c h, q_ev3 c h⟩ : V2 K) = ⟨q_ev4 c' 0, q_ev3 c' 0⟩) :
    (⟨-(2 * q_ev4 c h), 2 * q_ev3 c h⟩ : V2 K) + ⟨2 * q_ev4 c' 0, -(2 * q_ev3 c' 0)⟩ = 0 := by
  obtain ⟨j4, j3⟩ := V2.mk.inj hj
  ext <;> simp [V2.add_def, V2.zero_def, j3, j4]

/-- a gradient with respect to the coefficients scales dually to them, and with the energy (`mu⁻⁵`) -/
def tsG (mu : K) (g : C6 K) : C6 K := ⟨g.c0 / mu ^ 5, g.c1 / mu ^ 4, g.c2 / mu ^ 3, g.c3 / mu ^ 2, g.c4 / mu, g.c5⟩

/-- the energy partials of the rescaled piece are those of the piece at the rescaled duration: no inverse has to be
cancelled -/
theorem partials_tsC (mu T : K) (c : C6 K) :
    partialC T (QuinticSym.tsC mu c) = tsG mu (partialC (T / mu) c)
    ∧ partialT T (QuinticSym.tsC mu c) = partialT (T / mu) c / mu ^ 6 := by
  simp only [partialC, partialT, QuinticSym.tsC, tsG, lit_eq, C6.mk.injEq]
  push_cast
  refine ⟨⟨by simp, by simp, by simp, ?_, ?_, ?_⟩, ?_⟩ <;> ring

theorem gradTime_tsC (mu : K) (c : C6 K) : gradTime (QuinticSym.tsC mu c) = gradTime c / mu ^ 6 := by
  simp only [gradTime, QuinticSym.tsC, lit_eq]; ring

/-- **one segment, abstract piece of unit duration**: the first loop applied to the energy partials of an arbitrary
quintic `c` on `[0, 1]`, with the segment data (end-point difference, end derivatives) read off `c` itself — and every
quantity divided by the power of `h` that time scaling by `h` gives it, so that the statement is about the piece run at
speed `1/h`; both sides are polynomial in `1/h` -/
theorem seg1_energy_unit [CharZero K] (h : K) (c : C6 K) :
    seg1 ⟨mkTP h, c.c0, q_ev c 1 - c.c0⟩ (tsG h (partialC 1 c)) ⟨q_ev1 c 0 / h, q_ev2 c 0 / h ^ 2⟩
        ⟨q_ev1 c 1 / h, q_ev2 c 1 / h ^ 2⟩
      = ((-(240 * (c.c5 / h ^ 5)), 240 * (c.c5 / h ^ 5)),
         (⟨2 * (q_ev4 c 0 / h ^ 4), -(2 * (q_ev3 c 0 / h ^ 3))⟩, ⟨-(2 * (q_ev4 c 1 / h ^ 4)), 2 * (q_ev3 c 1 / h ^ 3)⟩),
         gradTime c / h ^ 6 - partialT 1 c / h ^ 6) := by
  simp only [seg1, partialC, partialT, gradTime, mkTP_inv, tsG, q_ev, q_ev1, q_ev2, q_ev3, q_ev4, lit_eq, litq,
    one_pow, mul_one, one_mul, zero_pow, ne_eq, OfNat.ofNat_ne_zero, not_false_eq_true, mul_zero, add_zero]
  push_cast
  refine Prod.ext (Prod.ext ?_ ?_) (Prod.ext (Prod.ext ?_ ?_) ?_)
  · simp only []; ring
  · simp only []; ring
  · ext <;> (simp only []; ring)
  · ext <;> (simp only []; ring)
  · simp only []; ring

variable [LinearOrder K] [IsStrictOrderedRing K]

/-- **one segment**: the first loop applied to the energy partials of the piece's own coefficients -/
theorem seg1_energy (h p0 dp : K) (k0 k1 : V2 K) (hh : h ≠ 0) :
    let s : Seg K := ⟨mkTP h, p0, dp⟩
    let c := closeSeg s k0 k1
    seg1 s (partialC h c) k0 k1
      = ((-(240 * c.c5), 240 * c.c5),
         (⟨2 * q_ev4 c 0, -(2 * q_ev3 c 0)⟩, ⟨-(2 * q_ev4 c h), 2 * q_ev3 c h⟩),
         gradTime c - partialT h c) := by
  obtain ⟨K0, K1, rfl, rfl, e⟩ := QuinticSym.closeSeg_unit h p0 dp k0 k1 hh
  obtain ⟨-, u1, u2, u3, u4, u5⟩ := quintic_closeSeg_unit p0 dp K0 K1
  have := seg1_energy_unit h (closeSeg ⟨mkTP 1, p0, dp⟩ K0 K1)
  rw [u1, u2, u3, u4, u5, show (closeSeg ⟨mkTP 1, p0, dp⟩ K0 K1).c0 = p0 from rfl, add_sub_cancel_left] at this
  simp only [e, QuinticSym.q_ev_tsC, partials_tsC, gradTime_tsC, div_self hh, zero_div]
  exact this

/-- what the first loop returns for the energy partials -/
def expL1 : List K → List (C6 K) → List ((K × K) × (V2 K × V2 K) × K)
  | h :: hs, c :: cs =>
      ((-(240 * c.c5), 240 * c.c5),
       (⟨2 * q_ev4 c 0, -(2 * q_ev3 c 0)⟩, ⟨-(2 * q_ev4 c h), 2 * q_ev3 c h⟩),
       gradTime c - partialT h c) :: expL1 hs cs
  | _, _ => []

/-- pull-back onto the right knot of the last piece -/
def lastR : List K → List (C6 K) → V2 K
  | [h], [c] => ⟨-(2 * q_ev4 c h), 2 * q_ev3 c h⟩
  | _ :: h' :: hs, _ :: c' :: cs => lastR (h' :: hs) (c' :: cs)
  | _, _ => 0

theorem ip2_add_left (a b c : V2 K) : ip2 (a + b) c = ip2 a c + ip2 b c := ip2_pairing.add_left a b c

end QuinticEG

namespace SepticEG
open ST.Septic SepticAdj SepticK
variable {K : Type} [Field K]

theorem gradBoundary_spec (hs : List K) (cs : List (C8 K)) (f l : C8 K) (T : K) (hf : cs.head? = some f)
    (hl : cs.getLast? = some l) (hT : hs.getLast? = some T) :
    (gradBoundary hs cs).1.p = 10080 * f.c7
    ∧ (⟨(gradBoundary hs cs).1.v, (gradBoundary hs cs).1.a, (gradBoundary hs cs).1.j⟩ : V3 K)
        = ⟨-(2 * s_ev6 f 0), 2 * s_ev5 f 0, -(2 * s_ev4 f 0)⟩
    ∧ (gradBoundary hs cs).2.p = -(10080 * l.c7)
    ∧ (⟨(gradBoundary hs cs).2.v, (gradBoundary hs cs).2.a, (gradBoundary hs cs).2.j⟩ : V3 K)
        = ⟨2 * s_ev6 l T, -(2 * s_ev5 l T), 2 * s_ev4 l T⟩ := by
  simp only [gradBoundary, hf, hl, hT, s_ev4, s_ev5, s_ev6, lit_eq, V3.mk.injEq]
  push_cast
  refine ⟨by ring, ⟨by ring, by ring, by ring⟩, by ring, by ring, by ring, by ring⟩

theorem eR_add_eL (h : K) (c c' : C8 K)
    (hj : (⟨s_ev4 c h, s_ev5 c h, s_ev6 c h⟩ : V3 K) = ⟨s_ev4 c' 0, s_ev5 c' 0, s_ev6 c' 0⟩) :
    (⟨2 * s_ev6 c h, -(2 * s_ev5 c h), 2 * s_ev4 c h⟩ : V3 K) + ⟨-(2 * s_ev6 c' 0), 2 * s_ev5 c' 0, -(2 * s_ev4 c' 0)⟩ = 0 := by
  obtain ⟨j4, j5, j6⟩ := V3.mk.inj hj
  ext <;> simp [V3.add_def, V3.zero_def, j4, j5, j6]

/-- a gradient with respect to the coefficients scales dually to them, and with the energy (`mu⁻⁷`) -/
def tsG (mu : K) (g : C8 K) : C8 K :=
  ⟨g.c0 / mu ^ 7, g.c1 / mu ^ 6, g.c2 / mu ^ 5, g.c3 / mu ^ 4, g.c4 / mu ^ 3, g.c5 / mu ^ 2, g.c6 / mu, g.c7⟩

theorem partials_tsC (mu T : K) (c : C8 K) :
    partialC T (SepticSym.tsC mu c) = tsG mu (partialC (T / mu) c)
    ∧ partialT T (SepticSym.tsC mu c) = partialT (T / mu) c / mu ^ 8 := by
  simp only [partialC, partialT, SepticSym.tsC, tsG, lit_eq, C8.mk.injEq]
  push_cast
  refine ⟨⟨by simp, by simp, by simp, by simp, ?_, ?_, ?_, ?_⟩, ?_⟩ <;> ring

theorem gradTime_tsC (mu : K) (c : C8 K) : gradTime (SepticSym.tsC mu c) = gradTime c / mu ^ 8 := by
  simp only [gradTime, SepticSym.tsC, lit_eq]; ring

theorem seg1_energy_unit [CharZero K] (h : K) (c : C8 K) :
    seg1 ⟨mkTP h, c.c0, s_ev c 1 - c.c0⟩ (tsG h (partialC 1 c)) ⟨s_ev1 c 0 / h, s_ev2 c 0 / h ^ 2, s_ev3 c 0 / h ^ 3⟩
        ⟨s_ev1 c 1 / h, s_ev2 c 1 / h ^ 2, s_ev3 c 1 / h ^ 3⟩
      = ((10080 * (c.c7 / h ^ 7), -(10080 * (c.c7 / h ^ 7))),
         (⟨-(2 * (s_ev6 c 0 / h ^ 6)), 2 * (s_ev5 c 0 / h ^ 5), -(2 * (s_ev4 c 0 / h ^ 4))⟩,
          ⟨2 * (s_ev6 c 1 / h ^ 6), -(2 * (s_ev5 c 1 / h ^ 5)), 2 * (s_ev4 c 1 / h ^ 4)⟩),
         gradTime c / h ^ 8 - partialT 1 c / h ^ 8) := by
  simp only [seg1, partialC, partialT, gradTime, mkTP_inv, tsG, s_ev, s_ev1, s_ev2, s_ev3, s_ev4, s_ev5, s_ev6, lit_eq, litq,
    one_pow, mul_one, one_mul, zero_pow, ne_eq, OfNat.ofNat_ne_zero, not_false_eq_true, mul_zero, add_zero]
  push_cast
  refine Prod.ext (Prod.ext ?_ ?_) (Prod.ext (Prod.ext ?_ ?_) ?_)
  · simp only []; ring
  · simp only []; ring
  · ext <;> (simp only []; ring)
  · ext <;> (simp only []; ring)
  · simp only []; ring

variable [LinearOrder K] [IsStrictOrderedRing K]

/-- **one segment**: the first loop applied to the energy partials of the piece's own coefficients -/
theorem seg1_energy (h p0 dp : K) (k0 k1 : V3 K) (hh : h ≠ 0) :
    let s : Seg K := ⟨mkTP h, p0, dp⟩
    let c := closeSeg s k0 k1
    seg1 s (partialC h c) k0 k1
      = ((10080 * c.c7, -(10080 * c.c7)),
         (⟨-(2 * s_ev6 c 0), 2 * s_ev5 c 0, -(2 * s_ev4 c 0)⟩, ⟨2 * s_ev6 c h, -(2 * s_ev5 c h), 2 * s_ev4 c h⟩),
         gradTime c - partialT h c) := by
  obtain ⟨K0, K1, rfl, rfl, e⟩ := SepticSym.closeSeg_unit h p0 dp k0 k1 hh
  obtain ⟨-, u1, u2, u3, u4, u5, u6, u7⟩ := septic_closeSeg_unit p0 dp K0 K1
  have := seg1_energy_unit h (closeSeg ⟨mkTP 1, p0, dp⟩ K0 K1)
  rw [u1, u2, u3, u4, u5, u6, u7, show (closeSeg ⟨mkTP 1, p0, dp⟩ K0 K1).c0 = p0 from rfl, add_sub_cancel_left] at this
  simp only [e, SepticSym.s_ev_tsC, partials_tsC, gradTime_tsC, div_self hh, zero_div]
  exact this

/-- what the first loop returns for the energy partials -/
def expL1 : List K → List (C8 K) → List ((K × K) × (V3 K × V3 K) × K)
  | h :: hs, c :: cs =>
      ((10080 * c.c7, -(10080 * c.c7)),
       (⟨-(2 * s_ev6 c 0), 2 * s_ev5 c 0, -(2 * s_ev4 c 0)⟩, ⟨2 * s_ev6 c h, -(2 * s_ev5 c h), 2 * s_ev4 c h⟩),
       gradTime c - partialT h c) :: expL1 hs cs
  | _, _ => []

/-- pull-back onto the right knot of the last piece -/
def lastR : List K → List (C8 K) → V3 K
  | [h], [c] => ⟨2 * s_ev6 c h, -(2 * s_ev5 c h), 2 * s_ev4 c h⟩
  | _ :: h' :: hs, _ :: c' :: cs => lastR (h' :: hs) (c' :: cs)
  | _, _ => 0

theorem ip3_add_left (a b c : V3 K) : ip3 (a + b) c = ip3 a c + ip3 b c := ip3_pairing.add_left a b c

end SepticEG

namespace HS
open QuinticAdj SepticAdj
variable {o : Deg} {K : Type} [Field K]

def BGrad (o : Deg) (α : Type) : Type := match o with | .quintic => Quintic.BGrad α | .septic => Septic.BGrad α
def gradBoundary : List K → List (C o K) → BGrad o K × BGrad o K :=
  match o with | .quintic => Quintic.gradBoundary | .septic => Septic.gradBoundary
def BGrad.p : BGrad o K → K := match o with | .quintic => Quintic.BGrad.p | .septic => Septic.BGrad.p
/-- the gradient with respect to the boundary derivatives as a block vector -/
def BGrad.d : BGrad o K → V o K :=
  match o with
  | .quintic => fun g => (⟨g.v, g.a⟩ : V2 K)
  | .septic => fun g => (⟨g.v, g.a, g.j⟩ : V3 K)

/-- what the first loop leaves on the two waypoints of a piece, for the energy partials -/
def eP : C o K → K × K :=
  match o with
  | .quintic => fun c => (-(240 * c.c5), 240 * c.c5)
  | .septic => fun c => (10080 * c.c7, -(10080 * c.c7))
/-- … on the knot derivatives of its left end -/
def eL : C o K → V o K :=
  match o with
  | .quintic => fun c => (⟨2 * q_ev4 c 0, -(2 * q_ev3 c 0)⟩ : V2 K)
  | .septic => fun c => (⟨-(2 * s_ev6 c 0), 2 * s_ev5 c 0, -(2 * s_ev4 c 0)⟩ : V3 K)
/-- … and of its right end -/
def eR : K → C o K → V o K :=
  match o with
  | .quintic => fun h c => (⟨-(2 * q_ev4 c h), 2 * q_ev3 c h⟩ : V2 K)
  | .septic => fun h c => (⟨2 * s_ev6 c h, -(2 * s_ev5 c h), 2 * s_ev4 c h⟩ : V3 K)

def expL1 : List K → List (C o K) → List ((K × K) × (V o K × V o K) × K) :=
  match o with | .quintic => QuinticEG.expL1 | .septic => SepticEG.expL1
def lastR : List K → List (C o K) → V o K := match o with | .quintic => QuinticEG.lastR | .septic => SepticEG.lastR

theorem expL1_cons (h : K) (hs : List K) (c : C o K) (cs : List (C o K)) :
    expL1 (h :: hs) (c :: cs) = (eP c, (eL c, eR h c), gradTime c - partialT h c) :: expL1 hs cs := by cases o <;> rfl
theorem expL1_nil (cs : List (C o K)) : expL1 [] cs = [] := by cases o <;> rfl
theorem lastR_single (h : K) (c : C o K) : lastR [h] [c] = eR h c := by cases o <;> rfl
theorem lastR_cons (h h' : K) (hs : List K) (c c' : C o K) (cs : List (C o K)) :
    lastR (h :: h' :: hs) (c :: c' :: cs) = lastR (h' :: hs) (c' :: cs) := by cases o <;> rfl

theorem gradInner_cons (cL cR : C o K) (cs : List (C o K)) :
    gradInner (cL :: cR :: cs) = ((eP cL).2 + (eP cR).1) :: gradInner (cR :: cs) := by
  cases o
  · show Quintic.gradInner (cL :: cR :: cs) = _
    simp only [Quintic.gradInner, eP, lit_eq]; push_cast; congr 1; ring
  · show Septic.gradInner (cL :: cR :: cs) = _
    simp only [Septic.gradInner, eP, lit_eq]; push_cast; congr 1; ring
theorem gradInner_single (c : C o K) : gradInner [c] = [] := by cases o <;> rfl
theorem gradInner_nil : gradInner ([] : List (C o K)) = [] := by cases o <;> rfl

/-- across a knot without jump, what the first loop leaves on it from the left and from the right cancels -/
theorem eR_add_eL (h : K) (c c' : C o K) (hj : hi c h = hi c' 0) : eR h c + eL c' = 0 := by
  cases o; exacts [QuinticEG.eR_add_eL h c c' hj, SepticEG.eR_add_eL h c c' hj]

theorem gradBoundary_spec (hs : List K) (cs : List (C o K)) (f l : C o K) (T : K) (hf : cs.head? = some f)
    (hl : cs.getLast? = some l) (hT : hs.getLast? = some T) :
    (gradBoundary hs cs).1.p = (eP f).1 ∧ (gradBoundary hs cs).1.d = eL f
    ∧ (gradBoundary hs cs).2.p = (eP l).2 ∧ (gradBoundary hs cs).2.d = eR T l := by
  cases o
  exacts [QuinticEG.gradBoundary_spec hs cs f l T hf hl hT, SepticEG.gradBoundary_spec hs cs f l T hf hl hT]

/-- chain rule for one segment: any joint tangent of (T, coefficients) -/
theorem energySeg_dual (T : Dual K) (c : C o (Dual K)) :
    (energySeg T c).du = gdot (partialC T.re (reC c)) c + partialT T.re (reC c) * T.du := by
  cases o; exacts [Quintic.energySeg_dual T c, Septic.energySeg_dual T c]

/-- summing the one-segment chain rule over the spline -/
theorem energy_dual (Ts : List (Dual K)) (cs : List (C o (Dual K))) :
    (energy Ts cs).du =
      gdotC (List.zipWith partialC (Ts.map Dual.re) (cs.map reC)) cs
      + dot (List.zipWith partialT (Ts.map Dual.re) (cs.map reC)) (Ts.map Dual.du) := by
  induction Ts generalizing cs with
  | nil => simp [energy_nil, gdotC_nil]
  | cons T Ts ih =>
    cases cs with
    | nil => simp [energy_nil_right, gdotC_nil]
    | cons c cs =>
      simp only [energy_cons, Dual.add_du, energySeg_dual, ih cs, List.map_cons, List.zipWith_cons_cons, gdotC_cons, dot_cons]
      ring

/-- at interior knots the pulled-back knot gradients cancel (optimality conditions) -/
theorem segPairV_jump (h : K) (hs : List K) (c : C o K) (cs : List (C o K)) (d0 : V o K) (ds : List (V o K))
    (hl : cs.length = hs.length) (hd : ds.length = hs.length + 1) (hj : JumpFree (h :: hs) (c :: cs)) :
    segPairV ((expL1 (h :: hs) (c :: cs)).map (·.2.1)) (d0 :: ds)
      = ip (eL c) d0 + ip (lastR (h :: hs) (c :: cs)) (ds.getLastD 0) := by
  induction hs generalizing h c cs d0 ds with
  | nil =>
    match cs, ds, hl, hd with
    | [], [d1], _, _ => simp [expL1_cons, expL1_nil, segPairV_cons, segPairV_nil, lastR_single]
  | cons h' hs ih =>
    match cs, ds, hl, hd with
    | c' :: cs', d1 :: d2 :: ds', hl, hd =>
      obtain ⟨hj1, hj'⟩ := (jumpFree_cons ..).mp hj
      rw [expL1_cons, List.map_cons, segPairV_cons, ih h' c' cs' d1 (d2 :: ds') (by simpa using hl) (by simpa using hd) hj',
        lastR_cons, add_assoc, ← add_assoc (ip (eR h c) d1), ← pairing.add_left, eR_add_eL h c c' hj1, pairing.zero_left, zero_add]
      rfl

theorem lastR_eq (hs : List K) (cs : List (C o K)) (l : C o K) (T : K) (hl : cs.length = hs.length)
    (h1 : cs.getLast? = some l) (h2 : hs.getLast? = some T) : lastR hs cs = eR T l := by
  induction hs generalizing cs with
  | nil => simp at h2
  | cons h hs ih =>
    match cs, hl with
    | c :: cs', hl =>
      match hs, cs', hl with
      | [], [], _ => simp at h1 h2; rw [lastR_single, h1, h2]
      | h' :: hs', c' :: cs'', hl =>
        rw [List.getLast?_cons_cons] at h1 h2
        rw [lastR_cons]
        exact ih (c' :: cs'') (by simpa using hl) h1 h2

/-- the per-waypoint contributions of the first loop add up to `getEnergyGradInnerPoints` between the two boundary entries -/
theorem oadd_eP (c : C o K) (cs : List (C o K)) :
    oadd ((c :: cs).map eP) = (eP c).1 :: gradInner (c :: cs) ++ [(eP ((c :: cs).getLast (by simp))).2] := by
  have aux : ∀ (carry : K) (c : C o K) (cs : List (C o K)),
      oaddAux carry ((c :: cs).map eP) = (carry + (eP c).1) :: gradInner (c :: cs) ++ [(eP ((c :: cs).getLast (by simp))).2] := by
    intro carry c cs
    induction cs generalizing carry c with
    | nil => simp [oaddAux, gradInner_single]
    | cons c' cs ih =>
      rw [List.map_cons, oaddAux, ih, gradInner_cons]
      simp
  rw [oadd, aux]; simp

theorem expL1_fst (hs : List K) (cs : List (C o K)) (hl : cs.length = hs.length) :
    (expL1 hs cs).map (·.1) = cs.map eP := by
  induction hs generalizing cs with
  | nil => match cs, hl with
    | [], _ => simp [expL1_nil]
  | cons h hs ih => match cs, hl with
    | c :: cs', hl => simp only [expL1_cons, List.map_cons, ih cs' (by simpa using hl)]

theorem expL1_times (hs : List K) (cs : List (C o K)) (hl : cs.length = hs.length) :
    zipAdd (List.zipWith partialT hs cs) ((expL1 hs cs).map (·.2.2)) = cs.map gradTime := by
  induction hs generalizing cs with
  | nil => match cs, hl with
    | [], _ => simp [expL1_nil, zipAdd]
  | cons h hs ih => match cs, hl with
    | c :: cs', hl =>
      simp only [expL1_cons, List.map_cons, List.zipWith_cons_cons, zipAdd, ih cs' (by simpa using hl)]
      congr 1; ring

/-- the envelope argument on the real side, both orders in one statement (`QuinticEG.envelope_core`, `SepticEG.envelope_core`) -/
theorem envelope_core (hs : List K) (cs : List (C o K)) (hne0 : hs ≠ []) (hl : cs.length = hs.length)
    (hj : JumpFree hs cs) (dP dh : List K) (dk0 dkN : V o K) (dmid : List (V o K))
    (hdP : dP.length = hs.length + 1) (hdm : dmid.length + 1 = hs.length) :
    segPair ((expL1 hs cs).map (·.1)) dP + dot ((expL1 hs cs).map (·.2.2)) dh
        + segPairV ((expL1 hs cs).map (·.2.1)) (dk0 :: (dmid ++ [dkN]))
        + dot (List.zipWith partialT hs cs) dh
      = dot ((gradBoundary hs cs).1.p :: (gradInner cs ++ [(gradBoundary hs cs).2.p])) dP
        + dot (cs.map gradTime) dh + ip (gradBoundary hs cs).1.d dk0 + ip (gradBoundary hs cs).2.d dkN := by
  match hs, cs, hne0, hl with
  | h :: hs', c :: cs', _, hl =>
    have hlen : ((expL1 (h :: hs') (c :: cs')).map (·.2.2)).length = (c :: cs').length := by
      rw [List.length_map, ← List.length_map (f := (·.1)), expL1_fst _ _ hl, List.length_map]
    obtain ⟨g1, g2, g3, g4⟩ := gradBoundary_spec (h :: hs') (c :: cs') c _ _ rfl
      (List.getLast?_eq_some_getLast (by simp)) (List.getLast?_eq_some_getLast (by simp))
    rw [g1, g2, g3, g4, expL1_fst _ _ hl, ← dot_oadd _ _ (by simp only [List.length_map, hdP, hl]), oadd_eP,
      segPairV_jump h hs' c cs' dk0 (dmid ++ [dkN]) (by simpa using hl) (by simp at hdm ⊢; omega) hj,
      lastR_eq _ _ _ _ hl (List.getLast?_eq_some_getLast (by simp)) (List.getLast?_eq_some_getLast (by simp)),
      List.getLastD_eq_getLast?, List.getLast?_append, ← expL1_times _ _ hl,
      dot_zipAdd _ _ _ (by simp only [List.length_zipWith, hl, Nat.min_self, hlen])]
    simp only [List.getLast?_singleton, Option.some_or, Option.getD_some, List.cons_append]
    ring

variable [LinearOrder K] [IsStrictOrderedRing K]

theorem seg1_energy (h p0 dp : K) (k0 k1 : V o K) (hh : h ≠ 0) :
    let c := closeSeg (Seg.mk (mkTP o h) p0 dp) k0 k1
    seg1 (Seg.mk (mkTP o h) p0 dp) (partialC h c) k0 k1 = (eP c, (eL c, eR h c), gradTime c - partialT h c) := by
  cases o; exacts [QuinticEG.seg1_energy h p0 dp k0 k1 hh, SepticEG.seg1_energy h p0 dp k0 k1 hh]

theorem loop1_energy (hs Ps : List K) (ks : List (V o K)) (hne : ∀ h ∈ hs, h ≠ 0)
    (hP : Ps.length = hs.length + 1) (hk : ks.length = hs.length + 1) :
    loop1 (mkSegs o hs Ps) (List.zipWith partialC hs (closure (mkSegs o hs Ps) ks)) ks
      = expL1 hs (closure (mkSegs o hs Ps) ks) := by
  induction hs generalizing Ps ks with
  | nil => simp [mkSegs_nil, loop1_nil, expL1_nil]
  | cons h hs ih =>
    match Ps, ks, hP, hk with
    | p0 :: p1 :: Ps', k0 :: k1 :: ks', hP, hk =>
      simp only [mkSegs_cons, closure_cons, List.zipWith_cons_cons, loop1_cons, expL1_cons,
        seg1_energy h p0 (p1 - p0) k0 k1 (hne h (by simp)),
        ih (p1 :: Ps') (k1 :: ks') (fun x hx => hne x (by simp [hx])) (by simpa using hP) (by simpa using hk)]

/-- **C06**, closed forms, both orders in one statement (`quintic_energy_grad_exact`, `septic_energy_grad_exact`) -/
theorem energy_grad_exact (hs Ps : List (Dual K)) (bL bR : V o (Dual K))
    (hpos : ∀ h ∈ hs, 0 < h.re) (hne0 : hs ≠ []) (hP : Ps.length = hs.length + 1) :
    let csR := build o (hs.map Dual.re) (Ps.map Dual.re) (reV bL) (reV bR)
    (energy hs (build o hs Ps bL bR)).du
      = dot ((gradBoundary (hs.map Dual.re) csR).1.p :: (gradInner csR ++ [(gradBoundary (hs.map Dual.re) csR).2.p]))
            (Ps.map Dual.du)
        + dot (csR.map gradTime) (hs.map Dual.du)
        + ip (gradBoundary (hs.map Dual.re) csR).1.d (duV bL) + ip (gradBoundary (hs.map Dual.re) csR).2.d (duV bR) := by
  intro csR
  have hposR : ∀ h ∈ hs.map Dual.re, 0 < h := List.forall_mem_map.mpr hpos
  obtain ⟨N, hN⟩ : ∃ N, hs.length = N + 1 := Nat.exists_eq_succ_of_ne_zero (by simpa using hne0)
  set inner := bthomas (rows bL bR (mkSegs o hs Ps)) with hinner
  have hinnerlen : inner.length = N := by simp [inner, hP, hN]
  have hcsR : csR = closure (mkSegs o (hs.map Dual.re) (Ps.map Dual.re)) ((bL :: inner ++ [bR]).map reV) := by
    simp only [csR, build_eq, List.map_cons, List.map_append, List.map_nil, inner, bthomas_re]
  have hcsRlen : csR.length = (hs.map Dual.re).length := build_length o _ _ _ _ (by simp [hP])
  have hl1 : loop1 (mkSegs o (hs.map Dual.re) (Ps.map Dual.re)) (List.zipWith partialC (hs.map Dual.re) csR)
      ((bL :: inner ++ [bR]).map reV) = expL1 (hs.map Dual.re) csR := by
    rw [hcsR]
    exact loop1_energy _ _ _ (fun h hh => (hposR h hh).ne') (by simp [hP]) (by simp [hinnerlen, hN])
  rw [energy_dual, show (build o hs Ps bL bR).map reC = csR from build_re hs Ps bL bR,
    show build o hs Ps bL bR = closure (mkSegs o hs Ps) (bL :: inner ++ [bR]) from build_eq o hs Ps bL bR,
    loop1_sum hs Ps (bL :: inner ++ [bR]) _ hP (by simp [hinnerlen, hN]) (by simp [hcsRlen]) (fun h hh => (hpos h hh).ne'),
    hl1]
  simp only [List.map_cons, List.map_append, List.map_nil, List.cons_append]
  exact envelope_core (hs.map Dual.re) csR (by simpa using hne0) hcsRlen
    (KKT (hs.map Dual.re) (Ps.map Dual.re) (reV bL) (reV bR) hposR (by simp [hP])) (Ps.map Dual.du) (hs.map Dual.du)
    (duV bL) (duV bR) (inner.map duV) (by simp [hP]) (by simp [hinnerlen, hN])

/-- **C06**, propagated partials, both orders in one statement (`quintic_energy_total_derivative`,
`septic_energy_total_derivative`): the chain rule `energy_dual`, then C05 (`adjoint_pos`) -/
theorem energy_total_derivative (hs Ps : List (Dual K)) (bL bR : V o (Dual K))
    (hpos : ∀ h ∈ hs, 0 < h.re) (hne0 : hs ≠ []) (hP : Ps.length = hs.length + 1) :
    let csR := build o (hs.map Dual.re) (Ps.map Dual.re) (reV bL) (reV bR)
    let gC := List.zipWith partialC (hs.map Dual.re) csR
    let gT := List.zipWith partialT (hs.map Dual.re) csR
    let out := propagate (buildFull o (hs.map Dual.re) (Ps.map Dual.re) (reV bL) (reV bR)) gC
    (energy hs (build o hs Ps bL bR)).du
      = dot out.points (Ps.map Dual.du) + dot (zipAdd gT out.times) (hs.map Dual.du)
        + ip out.start (duV bL) + ip out.fin (duV bR) := by
  intro csR gC gT out
  have hcsRlen : csR.length = hs.length := by simpa using build_length o (hs.map Dual.re) (Ps.map Dual.re) _ _ (by simp [hP])
  rw [energy_dual, build_re]
  exact adjoint_pos hs Ps bL bR gC gT hne0 hpos hP (by simp [gC, hcsRlen]) (by simp [gT, hcsRlen])

end HS

namespace QuinticEG
open ST.Quintic QuinticAdj QuinticK
variable {K : Type} [Field K]

/-- the envelope argument on the real side: for *any* pieces with continuous jerk and snap, the first-loop pull-back of the
energy partials (`expL1`) paired with any tangent — whatever the tangent `dmid` of the interior knot derivatives — is the
pairing with the closed forms -/
theorem envelope_core (hs : List K) (cs : List (C6 K)) (hne0 : hs ≠ []) (hl : cs.length = hs.length)
    (hj : JumpFree34 hs cs) (dP dh : List K) (dk0 dkN : V2 K) (dmid : List (V2 K))
    (hdP : dP.length = hs.length + 1) (hdm : dmid.length + 1 = hs.length) :
    segPair ((expL1 hs cs).map (·.1)) dP + dot ((expL1 hs cs).map (·.2.2)) dh
        + segPairV ((expL1 hs cs).map (·.2.1)) (dk0 :: (dmid ++ [dkN]))
        + dot (List.zipWith partialT hs cs) dh
      = dot ((gradBoundary hs cs).1.p :: (gradInner cs ++ [(gradBoundary hs cs).2.p])) dP
        + dot (cs.map gradTime) dh
        + ip2 ⟨(gradBoundary hs cs).1.v, (gradBoundary hs cs).1.a⟩ dk0
        + ip2 ⟨(gradBoundary hs cs).2.v, (gradBoundary hs cs).2.a⟩ dkN :=
  HS.envelope_core (o := .quintic) hs cs hne0 hl hj dP dh dk0 dkN dmid hdP hdm

variable [LinearOrder K] [IsStrictOrderedRing K]

theorem segPairV_jump (h : K) (hs : List K) (c : C6 K) (cs : List (C6 K)) (d0 : V2 K) (ds : List (V2 K))
    (hl : cs.length = hs.length) (hd : ds.length = hs.length + 1) (hj : JumpFree34 (h :: hs) (c :: cs)) :
    segPairV ((expL1 (h :: hs) (c :: cs)).map (·.2.1)) (d0 :: ds)
      = ip2 ⟨2 * q_ev4 c 0, -(2 * q_ev3 c 0)⟩ d0 + ip2 (lastR (h :: hs) (c :: cs)) (ds.getLastD 0) :=
  HS.segPairV_jump (o := .quintic) h hs c cs d0 ds hl hd hj

/-- **C06 (quintic), every N ≥ 1, positive durations**: the derivative of the reported energy along any tangent of durations,
waypoints and boundary states is the pairing of the tangent with the closed-form analytic gradients
(`getEnergyGradTimes`, `getEnergyGradInnerPoints`, `getEnergyGradBoundary`) -/
theorem quintic_energy_grad_exact (hs Ps : List (Dual K)) (bL bR : V2 (Dual K))
    (hpos : ∀ h ∈ hs, 0 < h.re) (hne0 : hs ≠ []) (hP : Ps.length = hs.length + 1) :
    (energy hs (build hs Ps bL bR)).du
      = dot ((gradBoundary (hs.map Dual.re) (build (hs.map Dual.re) (Ps.map Dual.re) (V2re bL) (V2re bR))).1.p
              :: (gradInner (build (hs.map Dual.re) (Ps.map Dual.re) (V2re bL) (V2re bR))
                  ++ [(gradBoundary (hs.map Dual.re) (build (hs.map Dual.re) (Ps.map Dual.re) (V2re bL) (V2re bR))).2.p]))
            (Ps.map Dual.du)
        + dot ((build (hs.map Dual.re) (Ps.map Dual.re) (V2re bL) (V2re bR)).map gradTime) (hs.map Dual.du)
        + ip2 ⟨(gradBoundary (hs.map Dual.re) (build (hs.map Dual.re) (Ps.map Dual.re) (V2re bL) (V2re bR))).1.v,
               (gradBoundary (hs.map Dual.re) (build (hs.map Dual.re) (Ps.map Dual.re) (V2re bL) (V2re bR))).1.a⟩ (V2du bL)
        + ip2 ⟨(gradBoundary (hs.map Dual.re) (build (hs.map Dual.re) (Ps.map Dual.re) (V2re bL) (V2re bR))).2.v,
               (gradBoundary (hs.map Dual.re) (build (hs.map Dual.re) (Ps.map Dual.re) (V2re bL) (V2re bR))).2.a⟩ (V2du bR) :=
  HS.energy_grad_exact (o := .quintic) hs Ps bL bR hpos hne0 hP

/-- **C06 (quintic), every N ≥ 1, positive durations**: the derivative of the reported energy along any tangent equals what
`propagateGrad` returns for the partial gradients `getEnergyPartialGradByCoeffs`, `getEnergyPartialGradByTimes`
("propagating the partials reproduces the total derivative") -/
theorem quintic_energy_total_derivative (hs Ps : List (Dual K)) (bL bR : V2 (Dual K))
    (hpos : ∀ h ∈ hs, 0 < h.re) (hne0 : hs ≠ []) (hP : Ps.length = hs.length + 1) :
    let csR := build (hs.map Dual.re) (Ps.map Dual.re) (V2re bL) (V2re bR)
    let gC := List.zipWith partialC (hs.map Dual.re) csR
    let gT := List.zipWith partialT (hs.map Dual.re) csR
    let out := propagate (buildFull (hs.map Dual.re) (Ps.map Dual.re) (V2re bL) (V2re bR)) gC
    (energy hs (build hs Ps bL bR)).du
      = dot out.points (Ps.map Dual.du) + dot (zipAdd gT out.times) (hs.map Dual.du)
        + ip2 out.start (V2du bL) + ip2 out.fin (V2du bR) :=
  HS.energy_total_derivative (o := .quintic) hs Ps bL bR hpos hne0 hP

end QuinticEG

namespace SepticEG
open ST.Septic SepticAdj SepticK
variable {K : Type} [Field K]

/-- `QuinticEG.envelope_core` for pieces of degree 7 with continuous derivatives 4–6 -/
theorem envelope_core (hs : List K) (cs : List (C8 K)) (hne0 : hs ≠ []) (hl : cs.length = hs.length)
    (hj : JumpFree456 hs cs) (dP dh : List K) (dk0 dkN : V3 K) (dmid : List (V3 K))
    (hdP : dP.length = hs.length + 1) (hdm : dmid.length + 1 = hs.length) :
    segPair ((expL1 hs cs).map (·.1)) dP + dot ((expL1 hs cs).map (·.2.2)) dh
        + segPairV ((expL1 hs cs).map (·.2.1)) (dk0 :: (dmid ++ [dkN]))
        + dot (List.zipWith partialT hs cs) dh
      = dot ((gradBoundary hs cs).1.p :: (gradInner cs ++ [(gradBoundary hs cs).2.p])) dP
        + dot (cs.map gradTime) dh
        + ip3 ⟨(gradBoundary hs cs).1.v, (gradBoundary hs cs).1.a, (gradBoundary hs cs).1.j⟩ dk0
        + ip3 ⟨(gradBoundary hs cs).2.v, (gradBoundary hs cs).2.a, (gradBoundary hs cs).2.j⟩ dkN :=
  HS.envelope_core (o := .septic) hs cs hne0 hl hj dP dh dk0 dkN dmid hdP hdm

variable [LinearOrder K] [IsStrictOrderedRing K]

theorem segPairV_jump (h : K) (hs : List K) (c : C8 K) (cs : List (C8 K)) (d0 : V3 K) (ds : List (V3 K))
    (hl : cs.length = hs.length) (hd : ds.length = hs.length + 1) (hj : JumpFree456 (h :: hs) (c :: cs)) :
    segPairV ((expL1 (h :: hs) (c :: cs)).map (·.2.1)) (d0 :: ds)
      = ip3 ⟨-(2 * s_ev6 c 0), 2 * s_ev5 c 0, -(2 * s_ev4 c 0)⟩ d0 + ip3 (lastR (h :: hs) (c :: cs)) (ds.getLastD 0) :=
  HS.segPairV_jump (o := .septic) h hs c cs d0 ds hl hd hj

/-- **C06 (septic), every N ≥ 1, positive durations**: the derivative of the reported energy along any tangent of durations,
waypoints and boundary states is the pairing of the tangent with the closed-form analytic gradients -/
theorem septic_energy_grad_exact (hs Ps : List (Dual K)) (bL bR : V3 (Dual K))
    (hpos : ∀ h ∈ hs, 0 < h.re) (hne0 : hs ≠ []) (hP : Ps.length = hs.length + 1) :
    (energy hs (build hs Ps bL bR)).du
      = dot ((gradBoundary (hs.map Dual.re) (build (hs.map Dual.re) (Ps.map Dual.re) (V3re bL) (V3re bR))).1.p
              :: (gradInner (build (hs.map Dual.re) (Ps.map Dual.re) (V3re bL) (V3re bR))
                  ++ [(gradBoundary (hs.map Dual.re) (build (hs.map Dual.re) (Ps.map Dual.re) (V3re bL) (V3re bR))).2.p]))
            (Ps.map Dual.du)
        + dot ((build (hs.map Dual.re) (Ps.map Dual.re) (V3re bL) (V3re bR)).map gradTime) (hs.map Dual.du)
        + ip3 ⟨(gradBoundary (hs.map Dual.re) (build (hs.map Dual.re) (Ps.map Dual.re) (V3re bL) (V3re bR))).1.v, (gradBoundary (hs.map Dual.re) (build (hs.map Dual.re) (Ps.map Dual.re) (V3re bL) (V3re bR))).1.a, (gradBoundary (hs.map Dual.re) (build (hs.map Dual.re) (Ps.map Dual.re) (V3re bL) (V3re bR))).1.j⟩ (V3du bL)
        + ip3 ⟨(gradBoundary (hs.map Dual.re) (build (hs.map Dual.re) (Ps.map Dual.re) (V3re bL) (V3re bR))).2.v, (gradBoundary (hs.map Dual.re) (build (hs.map Dual.re) (Ps.map Dual.re) (V3re bL) (V3re bR))).2.a, (gradBoundary (hs.map Dual.re) (build (hs.map Dual.re) (Ps.map Dual.re) (V3re bL) (V3re bR))).2.j⟩ (V3du bR) :=
  HS.energy_grad_exact (o := .septic) hs Ps bL bR hpos hne0 hP

/-- **C06 (septic), every N ≥ 1, positive durations**: the derivative of the reported energy along any tangent equals what
`propagateGrad` returns for the partial gradients -/
theorem septic_energy_total_derivative (hs Ps : List (Dual K)) (bL bR : V3 (Dual K))
    (hpos : ∀ h ∈ hs, 0 < h.re) (hne0 : hs ≠ []) (hP : Ps.length = hs.length + 1) :
    let csR := build (hs.map Dual.re) (Ps.map Dual.re) (V3re bL) (V3re bR)
    let gC := List.zipWith partialC (hs.map Dual.re) csR
    let gT := List.zipWith partialT (hs.map Dual.re) csR
    let out := propagate (buildFull (hs.map Dual.re) (Ps.map Dual.re) (V3re bL) (V3re bR)) gC
    (energy hs (build hs Ps bL bR)).du
      = dot out.points (Ps.map Dual.du) + dot (zipAdd gT out.times) (hs.map Dual.du)
        + ip3 out.start (V3du bL) + ip3 out.fin (V3du bR) :=
  HS.energy_total_derivative (o := .septic) hs Ps bL bR hpos hne0 hP

end SepticEG
