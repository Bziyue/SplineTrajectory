import STProofs.Lengths
import Mathlib.Tactic.Ring
import Mathlib.Tactic.FieldSimp
import Mathlib.Tactic.LinearCombination
import Mathlib.Algebra.Field.Basic
import Mathlib.Algebra.Order.Field.Basic
import Mathlib.Algebra.Order.Floor.Ring
/-!
# Scalars of the theorems

`DivRing R`: a commutative ring with a partial division (`a / b * b = a` for "units" `b`).  Every field
is one (`U b ↔ b ≠ 0`) and so are the dual numbers `Dual K` over a field (`U b ↔ b.re ≠ 0`).  The model's
`Num` instance derived from a `DivRing` is the one every theorem is stated with (under it `lit n` is the numeral `n`,
`lit_eq`, and `dot` unfolds by `dot_cons`); `numRat_eq` and
`numDualRat_eq` show that the *executable* instances the driver runs at `Rat` and `Dual Rat` perform the
same operations.
-/
open ST

namespace ST
namespace Dual
variable {K : Type} [Field K]
attribute [ext] Dual
instance : Zero (Dual K) := ⟨⟨0, 0⟩⟩
instance : One (Dual K) := ⟨⟨1, 0⟩⟩
instance : NatCast (Dual K) := ⟨fun n => ⟨n, 0⟩⟩
instance : IntCast (Dual K) := ⟨fun n => ⟨n, 0⟩⟩
@[simp] theorem add_re (a b : Dual K) : (a + b).re = a.re + b.re := rfl
@[simp] theorem add_du (a b : Dual K) : (a + b).du = a.du + b.du := rfl
@[simp] theorem sub_re (a b : Dual K) : (a - b).re = a.re - b.re := rfl
@[simp] theorem sub_du (a b : Dual K) : (a - b).du = a.du - b.du := rfl
@[simp] theorem neg_re (a : Dual K) : (-a).re = -a.re := rfl
@[simp] theorem neg_du (a : Dual K) : (-a).du = -a.du := rfl
@[simp] theorem mul_re (a b : Dual K) : (a * b).re = a.re * b.re := rfl
@[simp] theorem mul_du (a b : Dual K) : (a * b).du = a.re * b.du + a.du * b.re := rfl
@[simp] theorem div_re (a b : Dual K) : (a / b).re = a.re / b.re := rfl
@[simp] theorem div_du (a b : Dual K) : (a / b).du = (a.du * b.re - a.re * b.du) / (b.re * b.re) := rfl
@[simp] theorem zero_re : (0 : Dual K).re = 0 := rfl
@[simp] theorem zero_du : (0 : Dual K).du = 0 := rfl
@[simp] theorem one_re : (1 : Dual K).re = 1 := rfl
@[simp] theorem one_du : (1 : Dual K).du = 0 := rfl
@[simp] theorem natCast_re (n : ℕ) : (n : Dual K).re = n := rfl
@[simp] theorem natCast_du (n : ℕ) : (n : Dual K).du = 0 := rfl
@[simp] theorem intCast_re (n : ℤ) : (n : Dual K).re = n := rfl
@[simp] theorem intCast_du (n : ℤ) : (n : Dual K).du = 0 := rfl

instance : CommRing (Dual K) where
  add_assoc a b c := by ext <;> simp only [add_re, add_du] <;> ring
  zero_add a := by ext <;> simp
  add_zero a := by ext <;> simp
  add_comm a b := by ext <;> simp only [add_re, add_du] <;> ring
  neg_add_cancel a := by ext <;> simp
  sub_eq_add_neg a b := by ext <;> simp only [sub_re, sub_du, add_re, add_du, neg_re, neg_du] <;> ring
  mul_assoc a b c := by ext <;> simp only [mul_re, mul_du] <;> ring
  one_mul a := by ext <;> simp
  mul_one a := by ext <;> simp
  left_distrib a b c := by ext <;> simp only [mul_re, mul_du, add_re, add_du] <;> ring
  right_distrib a b c := by ext <;> simp only [mul_re, mul_du, add_re, add_du] <;> ring
  mul_comm a b := by ext <;> simp only [mul_re, mul_du] <;> ring
  zero_mul a := by ext <;> simp
  mul_zero a := by ext <;> simp
  nsmul := nsmulRec
  zsmul := zsmulRec
  natCast_zero := by ext <;> simp
  natCast_succ n := by ext <;> simp
  intCast_ofNat n := by ext <;> simp
  intCast_negSucc n := by ext <;> simp <;> ring

@[simp] theorem ofNat_re (n : ℕ) [n.AtLeastTwo] : (OfNat.ofNat n : Dual K).re = (OfNat.ofNat n : K) := by
  rw [← Nat.cast_ofNat (R := Dual K), ← Nat.cast_ofNat (R := K)]; rfl
@[simp] theorem ofNat_du (n : ℕ) [n.AtLeastTwo] : (OfNat.ofNat n : Dual K).du = 0 := by
  rw [← Nat.cast_ofNat (R := Dual K)]; rfl
end Dual
end ST

class DivRing (R : Type) extends CommRing R, Div R where
  U : R → Prop
  div_mul : ∀ (a b : R), U b → a / b * b = a

instance fieldDivRing {K : Type} [Field K] : DivRing K where
  U b := b ≠ 0
  div_mul a b hb := div_mul_cancel₀ a hb

instance dualDivRing {K : Type} [Field K] : DivRing (Dual K) where
  U b := b.re ≠ 0
  div_mul a b hb := by
    ext
    · simp; field_simp
    · simp; field_simp; ring

/-- the `Num` instance the theorems are stated with -/
@[reducible] instance (priority := high) drNum {R : Type} [DivRing R] : Num R := { ofNat := fun n => (n : R) }
@[simp] theorem lit_eq {R : Type} [DivRing R] (n : Nat) : (lit n : R) = (n : R) := rfl

@[simp ↓] theorem lit_re {K : Type} [Field K] (n : ℕ) : (lit n : Dual K).re = (n : K) := rfl
@[simp ↓] theorem lit_du {K : Type} [Field K] (n : ℕ) : (lit n : Dual K).du = 0 := rfl

section dot
variable {R : Type} [DivRing R]
@[simp] theorem dot_cons (x y : R) (xs ys : List R) : dot (x :: xs) (y :: ys) = x * y + dot xs ys := rfl
@[simp] theorem dot_nil_l (ys : List R) : dot ([] : List R) ys = 0 := by cases ys <;> simp [dot]
@[simp] theorem dot_nil_r (xs : List R) : dot xs ([] : List R) = 0 := by cases xs <;> simp [dot]
end dot

/-- project every dual-number operation on its real / dual part -/
macro "dual_proj" : tactic => `(tactic| simp only [ST.Dual.add_re, ST.Dual.add_du, ST.Dual.sub_re, ST.Dual.sub_du,
  ST.Dual.mul_re, ST.Dual.mul_du, ST.Dual.neg_re, ST.Dual.neg_du, ST.Dual.div_re, ST.Dual.div_du, ST.Dual.zero_re,
  ST.Dual.zero_du, ST.Dual.one_re, ST.Dual.one_du, lit_re, lit_du])

/-! ### instance coherence: what the driver executes is what the theorems talk about -/

theorem numRat_eq : (instNumRat : Num ℚ) = drNum := rfl

/-- not `rfl`: the model spells the tangent of a numeral `((0:ℕ):K)`, `drNum` spells it `0` -/
theorem dualNum_eq {K : Type} [Field K] : (@dualNum K drNum : Num (Dual K)) = drNum := by
  unfold dualNum drNum
  congr
  funext n
  ext <;> simp

theorem numDualRat_eq : (@dualNum ℚ instNumRat : Num (Dual ℚ)) = drNum := dualNum_eq

/-- comparisons and floor of the theorems' scalar types -/
@[reducible] noncomputable instance (priority := high) ordNum {K : Type} [Field K] [LinearOrder K] [FloorRing K] :
    NumOrd K :=
  { toNum := drNum, lt := fun a b => decide (a < b), le := fun a b => decide (a ≤ b), floor := Int.floor }
